import EosProofs.Lemmas.ContainersReach
/-! # C06 — operations that raise leave the fit unchanged

Over the model `EosModel/Containers.lean` of `eos/item_container/*.py`, `Module.charge`, the fit sets of solar
systems and fleets and the damage-profile setters.  The model state `World` (container storage, key maps,
descriptors, back-references, fit-set membership, damage profiles) determines every observation the model
offers, so `s' = s` is "observably unchanged" at full strength.  The correspondence run ties the model to the
Python code; attribute values, statistics and validation verdicts are not in this model (they are functions of
the configuration — C01/C03/C04) and are compared on the real code by the impl-level oracle of this property. -/
namespace Eos.C06
open Eos.Containers

/-- **C06.** Whatever mutating operation is called in whatever reachable world with whatever arguments
(negative and out-of-range indices, own / foreign / wrong-class items, `None`, duplicate type ids and keys,
fits already placed, non-profiles): if it raises, the complete state is what it was before the call. -/
theorem error_preserves_state {U : Univ} {s s' : World} {op : Op} {e : Err} (h : Reachable U s)
    (he : step U s op = (.error e, s')) : s' = s :=
  step_error_same U (reachable_inv h) he

/-- ... hence every observation (container contents and order, lengths, views, `item._container`,
`item._fit`, membership of fits, profiles) is unchanged. -/
theorem error_preserves_obs {α : Type} (obs : World → α) {U : Univ} {s s' : World} {op : Op} {e : Err}
    (h : Reachable U s) (he : step U s op = (.error e, s')) : obs s' = obs s := by
  rw [error_preserves_state h he]

/-- A rejected call has no after-effect: every later call, with the rejected item or any other, behaves
exactly as it would have without it. -/
theorem rejected_item_reusable {U : Univ} {s s' : World} {op : Op} {e : Err} (h : Reachable U s)
    (he : step U s op = (.error e, s')) (op2 : Op) : step U s' op2 = step U s op2 := by
  rw [error_preserves_state h he]

/-- Concretely: after a rejected call an unowned item (the rejected one or any other) is still accepted by a
set of its own class. -/
theorem rejected_free_item_addable {U : Univ} {s s' : World} {op : Op} {e : Err} (h : Reachable U s)
    (he : step U s op = (.error e, s')) {i f k : Nat} (hi : s.owner i = none)
    (hc : (Place.set (.plain f k)).itemClass = some (U.cls i)) :
    (step U s' (.setAdd f k (some i))).1 = .ok := by
  rw [error_preserves_state h he]
  simp [step, setAdd, checkClass, hc, hi]

/-- `ItemList.insert(index, item)` with an item that already has a container — for every index, negative
and out of range included: ValueError, state restored. -/
theorem insert_owned_rollback {U : Univ} {s : World} (h : Reachable U s) (f r : Nat) (index : Int) (i : Nat)
    (hc : (Place.rack f r).itemClass = some (U.cls i)) (ho : s.owner i ≠ none) :
    step U s (.insert f r index (some i)) = (.error .valueError, s) := by
  refine step_eq_error (reachable_inv h) ?_
  cases ho' : s.owner i with
  | none => exact absurd ho' ho
  | some p => simp [step, listInsert, checkClass, hc, ho']

/-- `place` onto an occupied slot: SlotTakenError, nothing changed — whatever the item. -/
theorem place_taken {U : Univ} {s : World} (f r : Nat) (index : Int) (i k j : Nat)
    (hc : (Place.rack f r).itemClass = some (U.cls i)) (hk : pyIndex (s.lists f r).length index = some k)
    (hj : (s.lists f r)[k]? = some (some j)) :
    step U s (.place f r index (some i)) = (.error .slotTaken, s) := by
  simp [step, listPlace, checkClass, hc, hk, hj]

/-- Re-adding an item to the very set it is in: ValueError and the item stays. -/
theorem readd_own_set {U : Univ} {s : World} (h : Reachable U s) (f k i : Nat)
    (hc : (Place.set (.plain f k)).itemClass = some (U.cls i)) (hm : i ∈ s.sets (.plain f k)) :
    step U s (.setAdd f k (some i)) = (.error .valueError, s) := by
  have ho : s.owner i = some (.set (.plain f k)) := ((reachable_inv h).own.mem_iff (.set (.plain f k)) i).1 hm
  exact step_eq_error (reachable_inv h) (by simp [step, setAdd, checkClass, hc, ho])

/-- Assigning an item held elsewhere to an occupied descriptor (ship, stance, charge, ...): ValueError, and
the old item is back in the slot with its back-reference. -/
theorem assign_owned_restores_old {U : Univ} {s : World} (h : Reachable U s) (c : SlotId) (i o : Nat)
    (hc : (Place.slot c).itemClass = some (U.cls i)) (hold : s.slots c = some o) (hio : i ≠ o)
    (ho : s.owner i ≠ none) : step U s (.assign c (some i)) = (.error .valueError, s) := by
  refine step_eq_error (reachable_inv h) ?_
  cases ho' : s.owner i with
  | none => exact absurd ho' ho
  | some p => simp [step, assign, checkClass, hc, hold, upd_other _ _ hio, ho']

/-- A fit that already is in a solar system cannot be added to one: ValueError, nothing changed. -/
theorem ssAdd_placed {U : Univ} {s : World} (g f g' : Nat) (hf : s.fitSs f = some g') :
    step U s (.ssAdd g f) = (.error .valueError, s) := by
  simp [step, ssAdd, hf]

/-- The same for a fleet: a fit that already is in a fleet cannot be added to one. -/
theorem flAdd_placed {U : Univ} {s : World} (g f g' : Nat) (hf : s.fitFl f = some g') :
    step U s (.flAdd g f) = (.error .valueError, s) := by
  simp [step, flAdd, hf]

/-- A non-profile as default damage profile: TypeError, nothing changed (`None` included). -/
theorem setDmg_nonprofile {U : Univ} {s : World} (f : Nat) (a : DmgArg) (ha : ∀ p, a ≠ .profile p) :
    step U s (.setDmg f a) = (.error .typeError, s) := by
  cases a with
  | profile p => exact absurd rfl (ha p)
  | none => rfl
  | junk => rfl

/-! ### non-vacuity: reachable worlds in which calls do raise (kernel-evaluated on the model) -/

def exU : Univ := { cls := fun i => if i < 3 then .modHigh else if i = 3 then .rig else .skill, tid := fun i => i % 2 }
/-- rack `[None, None, m0]` on fit 0, `m2` held by fit 1 -/
def exOps : List Op := [.place 0 0 2 (some 0), .append 1 0 (some 2)]

example : Reachable exU (run exU World.empty exOps) := ⟨exOps, rfl⟩
example : (step exU (run exU World.empty exOps) (.insert 0 0 (-1) (some 2))).1 = .error .valueError := by decide +kernel
example : (step exU (run exU World.empty exOps) (.insert 0 0 (-1) (some 2))).2.lists 0 0 = [none, none, some 0] := by decide +kernel
example : (step exU (run exU World.empty exOps) (.insert 0 0 5 (some 0))).1 = .error .valueError := by decide +kernel
example : (step exU (run exU World.empty exOps) (.place 0 0 (-1) (some 1))).1 = .error .slotTaken := by decide +kernel
example : (step exU (run exU World.empty exOps) (.place 0 0 (-4) (some 1))).1 = .error .indexError := by decide +kernel
example : (step exU (run exU World.empty exOps) (.equip 0 0 (some 3))).1 = .error .typeError := by decide +kernel
example : (step exU (run exU World.empty exOps) (.removeVal 0 0 (some 1))).1 = .error .valueError := by decide +kernel
example : (step exU (run exU World.empty exOps) (.freeIdx 0 0 3)).1 = .error .indexError := by decide +kernel
example : (step exU (run exU World.empty [.tuAdd 0 (some 4)]) (.tuAdd 0 (some 6))).1 = .error .valueError := by decide +kernel
example : (step exU (run exU World.empty [.ssAdd 0 0]) (.ssAdd 1 0)).1 = .error .valueError := by decide +kernel
example : (step exU (run exU World.empty exOps) (.insert 0 0 (-1) (some 1))).1 = .ok := by decide +kernel

end Eos.C06
