import EosProofs.Lemmas.MicroExecStep
import EosProofs.Lemmas.MicroExecRead
import EosProofs.Lemmas.WorldFixtures
/-! # C01, layer 2 — the message handlers of the calculation service keep the attribute cache coherent

`Props/C01.lean` (layer 1): any history of reads and mutations whose removal sets are `Machine.Legal` leaves the
cache coherent.  Here: every message-level step of `Micro.mstep` (`EosModel/WorldMicro.lean`) is such a step, so
along any message history a read returns the from-scratch value `spec (W (cfg, dyn))` of the current registers;
in a settled state that value is the entry of the specification's table `World.evalAll`
(`world_read_eq_table_buff`); and the compiled driver executes exactly these steps (`driver_*`).

The graph family `W` is a parameter tied to the model by `Ties` (`Lemmas/MicroLegal.lean`); its one instance,
`worldGraph` (`Lemmas/MicroAssembly.lean`), is what the headlines use.  Hypotheses: `rankWF`, `UniqueAttrs` (ranks
grow along `rdeps`: the cascade's fuel suffices); `ResistWF` and, in `MInv`, `UniqueIds`, `ChargeWF`, `TgtKinds`
(coverage, `rdeps_complete`); `StaticAt` around load / unload / start / stop / apply / unapply (third clause of
`Legal`; discharged by "no division by zero", `ErrorFree`); the K1 side conditions of `StepOK` for load / unload.  For a change of the configuration
(`reconfig`, `relevel`) the side condition is legality itself (`StepOK`, `RelevelOK`): that the change is invisible
to the cached nodes is assumed, not derived from a description of the change.  The warfare-buff modifiers of a
fleet boost are message payload (`Dyn.bspecs`, `MStep.buffset`), and `projMods` ignores payload that is not an
instance of a buff template (`bspecOK`). -/
namespace Eos.C01World
open Eos.World Eos.Micro Eos.Micro.L Eos.DepCache Eos.Machine

variable {u : Universe} {immune limited : List Int} {pen : Nat → Rat} {keep : Config → Node → Bool}
  {W : Config × Dyn → Graph Node Rat}

/-- Completeness of the four reverse-dependency enumerators of `_revise_regular_attr_dependents`: whatever
the calculation of node `n` reads (source attributes of its affector specs, the resistance attribute of its
carrier, its cap attribute) has `n` among its `rdeps`. -/
theorem rdeps_complete {cfg : Config} {d : Dyn} (hU : UniqueIds cfg) (hR : ResistWF u) (hT : TgtKinds cfg d)
    (hC : ChargeWF cfg) {n m : Node} (h : m ∈ deps u cfg d n) : n ∈ rdeps u cfg d m :=
  coverage hU hR hT hC h

/-- The force-recalculation of `direct` followed by the `AttrsValueChanged` cascade (`visitAll` with the
model's fuel) only removes entries, leaves every direct target uncached, and whenever it removes a cached
node it leaves none of that node's reverse dependencies cached.  Every cached node must have attribute metadata
(true of a coherent cache). -/
theorem cascade_closed (cfg : Config) (d : Dyn) (hwf : rankWF u = true) (hun : UniqueAttrs u) (K : Cache)
    (hK : ∀ x, K x ≠ none → HasMeta u x) (direct : List Node) :
    Cascade.Sub K (visitAll u cfg d (fuelOf u) K direct) ∧
    (∀ t ∈ direct, visitAll u cfg d (fuelOf u) K direct t = none) ∧
    Cascade.Closed (rdeps u cfg d) K (visitAll u cfg d (fuelOf u) K direct) :=
  have h := visitAll_removes u cfg d hwf hun (Nat.le_succ _) K hK direct
  ⟨h.sub, h.covers⟩

/-- **Each message-level step is a legal step of the abstract cache machine** (`Machine.Legal`, the
hypothesis of C01's layer 1): the new registers together with the set of entries the handler removes, and
the handler does nothing to the cache but remove that set.  For `reconfig` the clause of `StepOK` — the change is invisible to every cached
node — is clauses 1 and 3 of `Legal` itself: there the theorem repackages its hypothesis; `read` is a no-op of
`mstep`. -/
theorem micro_step_legal (T : Ties u immune limited pen keep W) (hwf : rankWF u = true) (hun : UniqueAttrs u)
    (hR : ResistWF u) {s : MState} (inv : MInv W s) (st : MStep) (ok : StepOK W s st)
    (hsa : StaticAround u W s st) :
    Legal W (toState s) (asChange u s st) ∧
    (mstep u s st).cache = restrict s.cache (removed s.cache (mstep u s st).cache) :=
  ⟨mstep_legal T hwf hun hR inv st ok hsa, restrict_removed (mstep_sub s st)⟩

theorem micro_inv_init {cfg : Config} {d : Dyn} (hU : UniqueIds cfg) (hC : ChargeWF cfg) (hT : TgtKinds cfg d) :
    MInv W ⟨cfg, d, fun _ => none⟩ :=
  ⟨good_init W (cfg, d), hU, hC, hT⟩

/-- The invariant holds after every history of events (induction over the list; no bound on its length)
starting from an empty cache. -/
theorem micro_inv_run (T : Ties u immune limited pen keep W) (hwf : rankWF u = true) (hun : UniqueAttrs u)
    (hR : ResistWF u) {cfg : Config} {d : Dyn} (hU : UniqueIds cfg) (hC : ChargeWF cfg) (hT : TgtKinds cfg d)
    (steps : List WStep) (ok : WRunOK u W ⟨cfg, d, fun _ => none⟩ steps) :
    MInv W (wrun u W ⟨cfg, d, fun _ => none⟩ steps) :=
  wrun_inv T hwf hun hR steps (micro_inv_init hU hC hT) ok

/-- **What a read returns after any message history is the from-scratch value of the current registers**:
the cached value if there is one, a fresh calculation otherwise — both equal `spec (W (cfg, dyn))`.  The read
event `WStep.read` stores `spec` by definition, so the claim is about the entries the handlers leave in the cache;
that the executable read returns `spec` is `driver_read_value`. -/
theorem micro_read_eq_spec (T : Ties u immune limited pen keep W) (hwf : rankWF u = true) (hun : UniqueAttrs u)
    (hR : ResistWF u) {cfg : Config} {d : Dyn} (hU : UniqueIds cfg) (hC : ChargeWF cfg) (hT : TgtKinds cfg d)
    (steps : List WStep) (ok : WRunOK u W ⟨cfg, d, fun _ => none⟩ steps) (n : Node) :
    observe W (toState (wrun u W ⟨cfg, d, fun _ => none⟩ steps)) n =
      spec (W ((wrun u W ⟨cfg, d, fun _ => none⟩ steps).cfg, (wrun u W ⟨cfg, d, fun _ => none⟩ steps).dyn)) n :=
  observe_eq_spec W _ (micro_inv_run T hwf hun hR hU hC hT steps ok).good n

/-- Two histories that end in the same registers are indistinguishable by reads (incremental = from scratch:
take for the second history the one that builds the final registers with an empty cache). -/
theorem micro_incremental_eq_scratch (T : Ties u immune limited pen keep W) (hwf : rankWF u = true)
    (hun : UniqueAttrs u) (hR : ResistWF u) {cfg cfg' : Config} {d d' : Dyn}
    (hU : UniqueIds cfg) (hC : ChargeWF cfg) (hT : TgtKinds cfg d)
    (hU' : UniqueIds cfg') (hC' : ChargeWF cfg') (hT' : TgtKinds cfg' d')
    (steps steps' : List WStep) (ok : WRunOK u W ⟨cfg, d, fun _ => none⟩ steps)
    (ok' : WRunOK u W ⟨cfg', d', fun _ => none⟩ steps')
    (hcfg : (wrun u W ⟨cfg, d, fun _ => none⟩ steps).cfg = (wrun u W ⟨cfg', d', fun _ => none⟩ steps').cfg)
    (hdyn : (wrun u W ⟨cfg, d, fun _ => none⟩ steps).dyn = (wrun u W ⟨cfg', d', fun _ => none⟩ steps').dyn)
    (n : Node) :
    observe W (toState (wrun u W ⟨cfg, d, fun _ => none⟩ steps)) n =
      observe W (toState (wrun u W ⟨cfg', d', fun _ => none⟩ steps')) n := by
  rw [micro_read_eq_spec T hwf hun hR hU hC hT steps ok, micro_read_eq_spec T hwf hun hR hU' hC' hT' steps' ok',
    hcfg, hdyn]

/-- **Headline: after any message history that ends in a settled state, every read returns the entry of the
specification's table** `World.evalAll` — the table the driver computes from scratch and the differential run
compares the real code with.
* `hnp` — a fleet-boost effect is not also a projectable (category 2) effect: the registers keep one record of
  targets and one modifier list per (item, effect), the specification treats the two roles separately
  (`projectionTargets` / `boostTargets`), so an effect with both could not be settled;
* `ok : WRunOKE …` — every event is taken under its side conditions: reads fill dependency-closed sets; messages
  satisfy `StepOK` (K1: a loaded / unloaded item is not a recorded projection target; effects are started before
  they are applied and unapplied before they are stopped; warfare-buff modifiers are replaced while the projector
  has no recorded targets; an item is loaded with nothing of it cached and none of its effects running) and
  *non-zero divisors*: no attribute calculation of the state before and after a load / unload / start / stop /
  apply / unapply ends in a division by zero (`ErrorFree`); for changes of the configuration — `reconfig`
  messages and level changes (`RelevelOK`) — the side condition is legality itself: the change is invisible to
  the cached nodes (that do not read the changed level);
* `hset : BuffSettled …` — the history ends in a settled state: exactly the effects the specification selects run,
  ordinary projectable effects are applied to the items' current targets, and for every running fleet boost the
  registered warfare-buff modifiers and the recorded targets are (permutations of) the specification's
  `buffModifiers` and boosted ships, or the projector has no projected modifier at all (what the correspondence
  check compares after every public call, driver command `QB`); assumed of the final state, not derived from the
  history;
* `hnz` — non-zero divisors for the final configuration: the table has no `divZero` entry.
What a read observes (`Machine.observe`) is the cached value if there is one, the from-scratch value `spec` of the
current registers otherwise; the executable read `readNode` is tied to it by `driver_read_value`.  The history
serves cache coherence only (`world_inv_run`); `hset` and `hnz` alone give `spec` = table
(`settled_spec_eq_table_buff`).  `sF` with `hF` only names the final state. -/
theorem world_read_eq_table_buff (hwf : rankWF u = true) (hun : UniqueAttrs u) (hR : ResistWF u)
    (hnp : ∀ e ∈ u.effects, e.isBuff = true → e.category ≠ 2)
    {cfg : Config} {d : Dyn} (hU : UniqueIds cfg) (hC : ChargeWF cfg)
    (hT : TgtKinds cfg d) (steps : List WStep)
    (ok : WRunOKE u immune limited pen (worldGraph u immune limited pen hwf) ⟨cfg, d, fun _ => none⟩ steps)
    (sF : MState) (hF : wrun u (worldGraph u immune limited pen hwf) ⟨cfg, d, fun _ => none⟩ steps = sF)
    (hset : BuffSettled u sF.cfg immune limited pen sF.dyn)
    (hnz : ∀ entry ∈ evalAll u sF.cfg immune limited pen, entry.2 ≠ .divZero)
    {x : Item} (hx : x ∈ sF.cfg.items) {am : AttrMeta} (ham : am ∈ u.attrs) :
    observe (worldGraph u immune limited pen hwf) (toState sF) (x.id, am.id) =
      valToOption (World.read (evalAll u sF.cfg immune limited pen) x am.id) := by
  subst hF
  have inv := world_inv_run hwf hun hR hU hC hT steps ok
  rw [observe_eq_spec _ _ inv.good]
  exact settled_spec_eq_table_buff hwf hun inv.uniq hnp hnz hset hx ham

/-- The same with "non-zero divisors" of the final state stated like that of the states passed through
(`ErrorFree` of the settled state); the table then has no `divZero` at the entries read. -/
theorem world_read_eq_table_buff_of_errorFree (hwf : rankWF u = true) (hun : UniqueAttrs u) (hR : ResistWF u)
    (hnp : ∀ e ∈ u.effects, e.isBuff = true → e.category ≠ 2)
    {cfg : Config} {d : Dyn} (hU : UniqueIds cfg) (hC : ChargeWF cfg)
    (hT : TgtKinds cfg d) (steps : List WStep)
    (ok : WRunOKE u immune limited pen (worldGraph u immune limited pen hwf) ⟨cfg, d, fun _ => none⟩ steps)
    (sF : MState) (hF : wrun u (worldGraph u immune limited pen hwf) ⟨cfg, d, fun _ => none⟩ steps = sF)
    (hset : BuffSettled u sF.cfg immune limited pen sF.dyn)
    (hef : ErrorFree u immune limited pen (worldGraph u immune limited pen hwf) sF.cfg sF.dyn)
    {x : Item} (hx : x ∈ sF.cfg.items) {am : AttrMeta} (ham : am ∈ u.attrs) :
    observe (worldGraph u immune limited pen hwf) (toState sF) (x.id, am.id) =
      valToOption (World.read (evalAll u sF.cfg immune limited pen) x am.id) ∧
    World.read (evalAll u sF.cfg immune limited pen) x am.id ≠ .divZero := by
  subst hF
  have inv := world_inv_run hwf hun hR hU hC hT steps ok
  rw [observe_eq_spec _ _ inv.good]
  exact settled_spec_eq_table_buff_of_errorFree hwf hun inv.uniq hnp hset hef hx ham

/-- **The headline for universes without buff effects** (`hb`), where settled means `sF.dyn = derivedDyn u sF.cfg`:
exactly the effects the specification selects run and are applied to the items' current targets.  The other
hypotheses are those of `world_read_eq_table_buff`, of which this is an instance (`buffSettled_derived`). -/
theorem world_read_eq_table (hwf : rankWF u = true) (hun : UniqueAttrs u) (hR : ResistWF u)
    (hb : ∀ e ∈ u.effects, e.isBuff = false) {cfg : Config} {d : Dyn} (hU : UniqueIds cfg) (hC : ChargeWF cfg)
    (hT : TgtKinds cfg d) (steps : List WStep)
    (ok : WRunOKE u immune limited pen (worldGraph u immune limited pen hwf) ⟨cfg, d, fun _ => none⟩ steps)
    (sF : MState) (hF : wrun u (worldGraph u immune limited pen hwf) ⟨cfg, d, fun _ => none⟩ steps = sF)
    (hset : sF.dyn = derivedDyn u sF.cfg)
    (hnz : ∀ entry ∈ evalAll u sF.cfg immune limited pen, entry.2 ≠ .divZero)
    {x : Item} (hx : x ∈ sF.cfg.items) {am : AttrMeta} (ham : am ∈ u.attrs) :
    observe (worldGraph u immune limited pen hwf) (toState sF) (x.id, am.id) =
      valToOption (World.read (evalAll u sF.cfg immune limited pen) x am.id) :=
  world_read_eq_table_buff hwf hun hR (hnp_of_noBuff hb) hU hC hT steps ok sF hF
    (hset ▸ buffSettled_derived hb) hnz hx ham

/-- As `world_read_eq_table_buff_of_errorFree`. -/
theorem world_read_eq_table_of_errorFree (hwf : rankWF u = true) (hun : UniqueAttrs u) (hR : ResistWF u)
    (hb : ∀ e ∈ u.effects, e.isBuff = false) {cfg : Config} {d : Dyn} (hU : UniqueIds cfg) (hC : ChargeWF cfg)
    (hT : TgtKinds cfg d) (steps : List WStep)
    (ok : WRunOKE u immune limited pen (worldGraph u immune limited pen hwf) ⟨cfg, d, fun _ => none⟩ steps)
    (sF : MState) (hF : wrun u (worldGraph u immune limited pen hwf) ⟨cfg, d, fun _ => none⟩ steps = sF)
    (hset : sF.dyn = derivedDyn u sF.cfg)
    (hef : ErrorFree u immune limited pen (worldGraph u immune limited pen hwf) sF.cfg sF.dyn)
    {x : Item} (hx : x ∈ sF.cfg.items) {am : AttrMeta} (ham : am ∈ u.attrs) :
    observe (worldGraph u immune limited pen hwf) (toState sF) (x.id, am.id) =
      valToOption (World.read (evalAll u sF.cfg immune limited pen) x am.id) ∧
    World.read (evalAll u sF.cfg immune limited pen) x am.id ≠ .divZero :=
  world_read_eq_table_buff_of_errorFree hwf hun hR (hnp_of_noBuff hb) hU hC hT steps ok
    sF hF (hset ▸ buffSettled_derived hb) hef hx ham

/-- Attributes without metadata: a read observes no value in any reachable state, and the table's read is
absent (except that `World.read` answers a skill's level from the item even when attribute 280 has no
metadata — the one place where the two differ). -/
theorem world_read_no_meta (hwf : rankWF u = true) (hun : UniqueAttrs u) (hR : ResistWF u)
    {cfg : Config} {d : Dyn} (hU : UniqueIds cfg) (hC : ChargeWF cfg) (hT : TgtKinds cfg d) (steps : List WStep)
    (ok : WRunOKE u immune limited pen (worldGraph u immune limited pen hwf) ⟨cfg, d, fun _ => none⟩ steps)
    (sF : MState) (hF : wrun u (worldGraph u immune limited pen hwf) ⟨cfg, d, fun _ => none⟩ steps = sF)
    (x : Item) {a : Int} (ha : attrMeta? u a = none) (hov : ¬ (x.kind = .skill ∧ a = 280)) :
    observe (worldGraph u immune limited pen hwf) (toState sF) (x.id, a) = none ∧
    World.read (evalAll u sF.cfg immune limited pen) x a = .absent := by
  subst hF
  rw [observe_eq_spec _ _ (world_inv_run hwf hun hR hU hC hT steps ok).good]
  exact ⟨spec_no_meta hwf _ ha, read_no_meta ha (by simpa only [Bool.and_eq_true, beq_iff_eq] using hov)⟩

/-- **Fleet boosts: (re-)registration of warfare buffs is a legal history.**  When a fleet-boost effect `e` of
item `i` starts, or one of its buff attributes changes, the service un-applies the effect from its recorded
targets, rebuilds its warfare-buff modifiers (`buffset`, payload `ms`, whatever it is) and applies the effect to
the ships `ts` of the fleet (`rebuff`).  From any state satisfying the invariant these three messages are taken
under their side conditions; the hypotheses are those of the `EffectApplied` (targets are solar-system items) and
non-zero divisors around the un-apply and the apply. -/
theorem micro_rebuff_legal (T : Ties u immune limited pen keep W) (hwf : rankWF u = true) (hun : UniqueAttrs u)
    (hR : ResistWF u) {s : MState} (inv : MInv W s) (i : Nat) (e : Int) (ms : List Modifier) (ts : List Nat)
    (hts : ∀ j ∈ ts, ∀ t, item? s.cfg j = some t → t.kind.isSolsys = true)
    (hst1 : StaticAround u W s (.unapply i e (s.dyn.tgts i e)))
    (hst3 : StaticAround u W (rebuffMid u s i e ms) (.apply i e ts)) :
    WRunOK u W s ((rebuff s i e ms ts).map .micro) ∧
    MInv W (wrun u W s ((rebuff s i e ms ts).map .micro)) ∧
    (wrun u W s ((rebuff s i e ms ts).map .micro)).dyn.bspecs i e = ms ∧
    (wrun u W s ((rebuff s i e ms ts).map .micro)).dyn.tgts i e = ts ∧
    ∀ n, observe W (toState (wrun u W s ((rebuff s i e ms ts).map .micro))) n =
      spec (W ((wrun u W s ((rebuff s i e ms ts).map .micro)).cfg,
        (wrun u W s ((rebuff s i e ms ts).map .micro)).dyn)) n :=
  have ok := rebuff_ok s i e ms ts hts hst1 hst3
  have hinv := wrun_inv T hwf hun hR _ inv ok
  have hd := rebuff_dyn (u := u) (W := W) s i e ms ts
  ⟨ok, hinv, hd.1, hd.2, fun n => observe_eq_spec W _ hinv.good n⟩

/-! ## Example worlds

None of them has a resisted effect, a charge, a `reconfig` or a `relevel`: `ResistWF`, `ChargeWF`, `ResistSrcOK` and
the legality clauses of configuration changes hold in them for want of instances. -/

/-- The hypotheses that do not mention `W` are jointly satisfiable by a state in which `EffectsStarted`
has a non-empty set of direct targets: starting effect 100 force-recalculates `(ship, 2)`. -/
example : rankWF tinyU = true ∧ UniqueAttrs tinyU ∧ ResistWF tinyU ∧ UniqueIds tinyS.cfg ∧ ChargeWF tinyS.cfg ∧
    TgtKinds tinyS.cfg tinyS.dyn ∧ (∀ W, StepOK W tinyS (.start 0 [100])) ∧
    directOf tinyU tinyS.cfg (setOn tinyS.dyn 0 [100] true)
      (localSpecsOf tinyU tinyS.cfg (setOn tinyS.dyn 0 [100] true) 0 [100]) = [(0, 2)] :=
  ⟨by decide, by unfold UniqueAttrs; decide, resistWF_of_all (by decide), by decide,
    chargeWF_of_all (by decide), tgtKinds_of_nil fun _ _ => rfl, fun _ _ _ => rfl, by decide⟩

/-! ### The headline on `settleHist`

The history `settleHist` (`Lemmas/WorldFixtures.lean`, over the two-item world of `Lemmas/MicroSettle.lean`: two
effects of a module started, each applied to the ship, then a read) satisfies every hypothesis of
`world_read_eq_table`; the read of the ship's attribute 37 observes the table's entry,
(100 + 3/2 − 3/2) · 3/2 · 3/2 = 225. -/

example : observe settleW (toState (wrun settleU settleW settleS0 settleHist)) (1, 37) =
    valToOption (World.read (evalAll settleU settleCfg specImmune specLimited (fun _ => 1)) settleShip 37) :=
  world_read_eq_table settle_rank settle_wf.1 settle_wf.2.1 settle_noBuff settle_wf.2.2.1 settle_wf.2.2.2.1
    settle_wf.2.2.2.2 settleHist settle_runOK _ rfl settle_hset settle_evalAll.1 (x := settleShip)
    List.mem_cons_self (am := ⟨37, none, none, true, true⟩) (List.mem_cons_of_mem _ List.mem_cons_self)

example : observe settleW (toState (wrun settleU settleW settleS0 settleHist)) (1, 37) = some 225 ∧
    World.read (evalAll settleU settleCfg specImmune specLimited (fun _ => 1)) settleShip 37 = .ok 225 ∧
    (wrun settleU settleW settleS0 settleHist).cache (1, 37) = some 225 :=
  ⟨observe_of_cached settle_cache, settle_evalAll.2, settle_cache⟩

/-! ### A history with a running fleet boost

`buffU` has a warfare-buff effect (2000, `isBuff := true`, no modifiers of its own) on a module type and one buff
template (buff 10: +value % on attribute 37 of the boosted ship).  History `buffHist`: the effect starts; the
ship's attribute 37 is read (100, cached); the service registers the buff — un-apply from no targets,
`buffset` with the one modifier built from the template (source: buff value attribute 2469 = 25 of the
module), apply to the ship —, which removes the cached entry; the next read returns 125. -/

def buffU : Universe :=
  { attrs := [⟨2469, none, none, true, true⟩, ⟨37, none, none, true, true⟩],
    effects := [⟨2000, 1, none, none, true, []⟩],
    types := [⟨1, none, some 6, none, [(37, 100)], [], []⟩, ⟨2, none, some 7, none, [(2469, 25)], [2000], []⟩],
    buffs := [⟨10, 1, none, 37, 9, 1⟩] }
def buffShip : Item := ⟨1, .ship, 1, 0, 1, none, none, none, []⟩
def buffCfg : Config :=
  { hasSource := true, fits := [⟨0, some 1, none, none⟩],
    items := [buffShip, ⟨2, .moduleHigh, 2, 0, 3, none, none, none, []⟩] }
def buffD0 : Dyn := { loaded := fun i => i == 1 || i == 2, on := fun _ _ => false, tgts := fun _ _ => [] }
def buffS0 : MState := ⟨buffCfg, buffD0, fun _ => none⟩
def buffMod : Modifier := ⟨1, 4, none, 37, 9, 1, some 10, 2469⟩
abbrev buffW : Config × Dyn → Graph Node Rat := worldGraph buffU specImmune specLimited (fun _ => 1) (by decide)
def buffHist : List WStep :=
  [.micro (.start 2 [2000]), .read fun n => n == (1, 37),
   .micro (.unapply 2 2000 []), .micro (.buffset 2 2000 [buffMod]), .micro (.apply 2 2000 [1]),
   .read fun n => n == (1, 37) || n == (2, 2469)]

/-- The payload is an instance of the template (`projMods` ignores anything else), and the middle of the
history is the `rebuff` of the theorem above. -/
example : bspecOK buffU buffMod = true := by decide
example : buffHist = [.micro (.start 2 [2000]), .read fun n => n == (1, 37)] ++
    (rebuff (wrun buffU buffW buffS0 (buffHist.take 2)) 2 2000 [buffMod] [1]).map .micro ++
    [.read fun n => n == (1, 37) || n == (2, 2469)] := rfl

theorem buff_wf : rankWF buffU = true ∧ UniqueAttrs buffU ∧ ResistWF buffU ∧ UniqueIds buffCfg ∧
    ChargeWF buffCfg ∧ TgtKinds buffCfg buffD0 :=
  ⟨by decide +kernel, by unfold UniqueAttrs; decide, resistWF_of_all (by decide), by decide,
    chargeWF_of_all (by decide), tgtKinds_of_nil fun _ _ => rfl⟩

/-- Both reads of the history fill dependency-closed sets: before the boost is applied `(ship, 37)` reads nothing,
afterwards it reads the booster's buff value attribute `(module, 2469)`. -/
theorem buff_runOK : WRunOKE buffU specImmune specLimited (fun _ => 1) buffW buffS0 buffHist :=
  wrunOKE_of_errorFree _ _ _ (by unfold ErrorFree; decide +kernel)
    ⟨fun _ _ => rfl, legal_read_of_closed _ _ [(1, 37)] (by simp) (by decide +kernel), trivial, rfl,
      solsys_of_all (by decide), legal_read_of_closed _ _ [(1, 37), (2, 2469)] (by simp) (by decide +kernel), trivial⟩

/-- The history satisfies the hypotheses of `micro_inv_run` for a universe with a buff effect; the entry
cached before the boost (100) is removed by the `EffectApplied`, and the read after it caches 125. -/
example : (∃ e ∈ buffU.effects, e.isBuff = true) ∧
    MInv buffW (wrun buffU buffW buffS0 buffHist) ∧
    (wrun buffU buffW buffS0 (buffHist.take 2)).cache (1, 37) = some 100 ∧
    (wrun buffU buffW buffS0 (buffHist.take 5)).cache (1, 37) = none ∧
    (wrun buffU buffW buffS0 buffHist).cache (1, 37) = some 125 ∧
    (wrun buffU buffW buffS0 buffHist).dyn.bspecs 2 2000 = [buffMod] ∧
    (wrun buffU buffW buffS0 buffHist).dyn.tgts 2 2000 = [1] := by
  have T := worldGraph_ties (immune := specImmune) (limited := specLimited) (pen := fun _ => 1) buff_wf.1
  obtain ⟨hwf, hun, hR, hU, hC, hT⟩ := buff_wf
  have ok := wrunOK_of_wrunOKE T _ _ buff_runOK
  have ok5 : WRunOK buffU buffW buffS0 (buffHist.take 5) :=
    ⟨ok.1, ok.2.1, ok.2.2.1, ok.2.2.2.1, ok.2.2.2.2.1, trivial⟩
  have h100 : (wrun buffU buffW buffS0 (buffHist.take 2)).cache (1, 37) = some 100 := by decide +kernel
  refine ⟨by decide, micro_inv_run T hwf hun hR hU hC hT _ ok, h100, ?_, by decide +kernel⟩
  -- the `EffectApplied` removed the entry: it only removes entries, and a surviving `100` would contradict
  -- coherence with the from-scratch value `125` of the new registers
  have inv5 := micro_inv_run T hwf hun hR hU hC hT _ ok5
  have hspec : spec (buffW ((wrun buffU buffW buffS0 (buffHist.take 5)).cfg,
      (wrun buffU buffW buffS0 (buffHist.take 5)).dyn)) (1, 37) = some 125 := by decide +kernel
  have sub : Cascade.Sub (wrun buffU buffW buffS0 (buffHist.take 2)).cache
      (wrun buffU buffW buffS0 (buffHist.take 5)).cache :=
    ((mstep_sub (u := buffU) (wrun buffU buffW buffS0 (buffHist.take 2)) (.unapply 2 2000 [])).trans
      (mstep_sub (u := buffU) _ (.buffset 2 2000 [buffMod]))).trans (mstep_sub (u := buffU) _ (.apply 2 2000 [1]))
  rcases sub (1, 37) with h | h
  · exact h
  · exact absurd ((inv5.good.coh (1, 37) 100 (h.trans h100)).symm.trans hspec) (by decide +kernel)

/-! ### The headline on a legal history that ends in a `BuffSettled` state

The fleet of `Lemmas/WorldFixtures.lean` (`fleetU`, `fleetCfg`: fit 0 with ship 1 and a boosting module 2,
fit 1 with ship 3, same fleet; the module's buff id attribute selects the template "attribute 37 of the boosted
ship × buff value 3/2").  History `fleetHist` from the state "everything loaded, nothing running, nothing
cached": the boost effect starts; the service registers the buff (un-apply from no targets, `buffset` with the
modifier built from the template, apply to both ships); a read of ship 3's attribute 37.  The end state
satisfies `BuffSettled` — the hypothesis is met by a state a legal history reaches —, and the read observes
the table's entry, 100 · 3/2 = 150. -/

def fleetBM : Modifier := ⟨1, 4, none, 37, 6, 1, some 10, 2469⟩
def fleetD0 : Dyn :=
  { loaded := (derivedDyn fleetU fleetCfg).loaded, on := fun _ _ => false, tgts := fun _ _ => [] }
def fleetS0 : MState := ⟨fleetCfg, fleetD0, fun _ => none⟩
abbrev fleetW : Config × Dyn → Graph Node Rat := worldGraph fleetU specImmune specLimited fleetPen (by decide)
def fleetHist : List WStep :=
  [.micro (.start 2 [2000]), .micro (.unapply 2 2000 []), .micro (.buffset 2 2000 [fleetBM]),
   .micro (.apply 2 2000 [1, 3]), .read fun n => n == (3, 37) || n == (2, 2469)]

theorem fleet_wf : rankWF fleetU = true ∧ UniqueAttrs fleetU ∧ ResistWF fleetU ∧ UniqueIds fleetCfg ∧
    ChargeWF fleetCfg ∧ TgtKinds fleetCfg fleetD0 :=
  ⟨by decide +kernel, by unfold UniqueAttrs; decide, resistWF_of_all (by decide), by decide,
    chargeWF_of_all (by decide), tgtKinds_of_nil fun _ _ => rfl⟩

theorem fleet_runOK : WRunOKE fleetU specImmune specLimited fleetPen fleetW fleetS0 fleetHist :=
  wrunOKE_of_errorFree _ _ _ (by unfold ErrorFree; decide +kernel)
    ⟨fun _ _ => rfl, trivial, rfl, solsys_of_all (by decide),
      legal_read_of_closed _ _ [(3, 37), (2, 2469)] (by simp) (by decide +kernel), trivial⟩

theorem fleet_item1 : item? fleetCfg 1 = some fleetShip1 := rfl
theorem fleet_item2 : item? fleetCfg 2 = some fleetMod := rfl
theorem fleet_item3 : item? fleetCfg 3 = some fleetShip3 := rfl
/-- **The end state of the history is `BuffSettled`.** -/
theorem fleet_hset : BuffSettled fleetU (wrun fleetU fleetW fleetS0 fleetHist).cfg specImmune specLimited fleetPen
    (wrun fleetU fleetW fleetS0 fleetHist).dyn :=
  fleet_settled_of rfl rfl (by decide +kernel) (.of_eq (by decide +kernel))

theorem fleet_cache : (wrun fleetU fleetW fleetS0 fleetHist).cache (3, 37) = some 150 := by decide +kernel

/-- `fleetHist` satisfies every hypothesis of `world_read_eq_table_buff` — in a universe with a buff effect —,
and the read of the boosted ship of the *other* fit observes the table's entry. -/
example : observe fleetW (toState (wrun fleetU fleetW fleetS0 fleetHist)) (3, 37) =
    valToOption (World.read (evalAll fleetU fleetCfg specImmune specLimited fleetPen) fleetShip3 37) :=
  world_read_eq_table_buff fleet_wf.1 fleet_wf.2.1 fleet_wf.2.2.1 fleet_hnp fleet_wf.2.2.2.1
    fleet_wf.2.2.2.2.1 fleet_wf.2.2.2.2.2 fleetHist fleet_runOK _ rfl fleet_hset fleet_evalAll.1
    (x := fleetShip3) (List.mem_cons_of_mem _ (List.mem_cons_of_mem _ List.mem_cons_self))
    (am := ⟨37, none, none, true, true⟩) (List.mem_cons_of_mem _ (List.mem_cons_of_mem _ List.mem_cons_self))

example : (∃ e ∈ fleetU.effects, e.isBuff = true) ∧
    observe fleetW (toState (wrun fleetU fleetW fleetS0 fleetHist)) (3, 37) = some 150 ∧
    World.read (evalAll fleetU fleetCfg specImmune specLimited fleetPen) fleetShip3 37 = .ok 150 ∧
    (wrun fleetU fleetW fleetS0 fleetHist).cache (3, 37) = some 150 :=
  ⟨by decide, observe_of_cached fleet_cache, fleet_evalAll.2.2, fleet_cache⟩

/-! ## The compiled driver executes the `mstep` / reads of the theorems above

`Driver/Micro.lean` cannot run `Micro.casc` (a function-valued cache is re-evaluated at every look-up); it runs
the table twin `mstepT` of `EosModel/WorldMicroExec.lean`, re-packs the registers after every message
(`compactDyn`), and reads with `readStepT`.  The differential run compares the real code's attribute caches with
that twin after every message; the theorems below close the gap to `mstep`. -/

/-- **What the driver computes for a message is the `mstep` of the theorems above.**
(1) The table step `mstepT` is `mstep` through `TState.toM`, for every state and message.
(2) The driver's full message step `mdoT` (= `mdo` of `Driver/Micro.lean`: `mstepT`, then `compactDyn`) is `mstep`
as well, provided the registers mention only configured items and effects of their types (`DynFin`: true of the
empty registers the driver starts from, and of every output of `compactDyn`) and the message does (`StepFin`);
`DynFin` is kept. -/
theorem driver_step_refines (s : TState) (st : MStep) :
    (mstepT u s st).toM = mstep u s.toM st ∧
    (DynFin u s.cfg s.dyn → StepFin u s.cfg s.dyn st →
      (mdoT u s st).toM = mstep u s.toM st ∧ DynFin u (mdoT u s st).cfg (mdoT u s st).dyn) :=
  ⟨mstepT_toM s st, fun h ok => mdoT_toM h st ok⟩

/-- Along any history of such messages (no bound on its length) the driver's state is the model's. -/
theorem driver_run_refines (steps : List MStep) (s : TState) (h : DynFin u s.cfg s.dyn)
    (ok : RunFin u s.toM steps) :
    (steps.foldl (mdoT u) s).toM = steps.foldl (mstep u) s.toM :=
  (mdoT_run steps s h ok).1

/-- **A message that passes the driver's check `stepOKb` is a legal step of the abstract cache machine, and the
driver's state satisfies the invariant afterwards.**  `Driver/Micro.lean` evaluates `stepOKb` (the executable form
of `StepOK`, `EosModel/WorldMicroExec.lean`) and `stepFinb` (`hsf`, by `stepFinb_iff`) before every message of the
real code's stream except `MC` (`changed`), on which both are `true` by definition; `hsa` is not executable.  The
`Legal` step is the `.change` to the driver's new registers that removes exactly the entries the driver's table
lost, and the driver does nothing else to its table. -/
theorem driver_checked_step_legal (T : Ties u immune limited pen keep W) (hwf : rankWF u = true)
    (hun : UniqueAttrs u) (hR : ResistWF u) {s : TState} (hfin : DynFin u s.cfg s.dyn) (inv : MInv W s.toM)
    {st : MStep} (hst : ∀ cfg', st ≠ .reconfig cfg') (hb : stepOKb u s st = true)
    (hsf : StepFin u s.cfg s.dyn st) (hsa : StaticAround u W s.toM st) :
    StepOK W s.toM st ∧
    (mdoT u s st).toM = mstep u s.toM st ∧
    Legal W (toState s.toM) (.change ((mdoT u s st).cfg, (mdoT u s st).dyn)
      (removed (tblFun s.tbl) (tblFun (mdoT u s st).tbl))) ∧
    tblFun (mdoT u s st).tbl = restrict (tblFun s.tbl) (removed (tblFun s.tbl) (tblFun (mdoT u s st).tbl)) ∧
    MInv W (mdoT u s st).toM ∧ DynFin u (mdoT u s st).cfg (mdoT u s st).dyn := by
  have ok := stepOKb_sound hfin hst hb W
  obtain ⟨h1, h2⟩ := mdoT_toM hfin st hsf
  obtain ⟨hl, hc⟩ := micro_step_legal T hwf hun hR inv st ok hsa
  have hi := mstep_inv T hwf hun hR inv st ok hsa
  unfold asChange at hl
  rw [← h1] at hl hc hi
  exact ⟨ok, h1, hl, hc, hi, h2⟩

/-- On the configuration's items and their types' effects the re-packing changes nothing, whatever the
registers. -/
theorem driver_compact_id (cfg : Config) (d : Dyn) {x : Item} (hx : x ∈ cfg.items) :
    (compactDyn u cfg d).loaded x.id = d.loaded x.id ∧
    ∀ e ∈ effsOf u x, (compactDyn u cfg d).on x.id e = d.on x.id e ∧
      (compactDyn u cfg d).tgts x.id e = d.tgts x.id e ∧
      (compactDyn u cfg d).bspecs x.id e = d.bspecs x.id e :=
  compactDyn_of_mem hx

/-- **What a public read of the driver returns is the from-scratch value.**  State satisfying `MInv`,
rank-well-formed universe, no calculation of the state divides by zero (`ErrorFree`): `readStepT` on a configured
item returns what the reader of the from-scratch values answers (`.ok v` / `.absent` according to
`spec … (y.id, a)`, the level for a skill's attribute 280, `.absent` without metadata), and the table it leaves is
a coherent extension of the old one. -/
theorem driver_read_value (hwf : rankWF u = true) {s : TState}
    (inv : MInv (worldGraph u immune limited pen hwf) s.toM)
    (hef : ErrorFree u immune limited pen (worldGraph u immune limited pen hwf) s.cfg s.dyn)
    {i : Nat} {y : Item} (hy : item? s.cfg i = some y) (a : Int) :
    (readStepT u immune limited pen s i a).2 =
      readerOf u (spec (worldGraph u immune limited pen hwf (s.cfg, s.dyn))) y a ∧
    (∀ n v, tblFun (readStepT u immune limited pen s i a).1.tbl n = some v →
      spec (worldGraph u immune limited pen hwf (s.cfg, s.dyn)) n = some v) ∧
    (∀ n v, tblFun s.tbl n = some v → tblFun (readStepT u immune limited pen s i a).1.tbl n = some v) := by
  obtain ⟨hi, hle, hv⟩ := readStepT_world hwf inv.uniq hef inv.good i a
  exact ⟨hv y hy, hi.1, hle⟩

/- Full statement (not provable, see `ResistSrcOK` and the counter-example `gapU` in `Lemmas/MicroExecRead.lean`):
with the hypotheses of `driver_read_value` the driver's read is `wstep … (.read S)` for a set `S` satisfying
`WStepOK … (.read S)`.  `get_modifications` (and the model) read the resistance attribute of a projected
modifier only after its source attribute had a value, while `Micro.deps` lists it unconditionally.  After a read
that leaves such a gap the cache is not dependency-closed, `MInv` fails, and nothing here speaks about the rest of
that run. -/
/-- **A public read of the driver is a legal read event of the histories above** (`WStepOK … (.read S)`, i.e.
`Machine.Legal`), under the additional hypothesis `ResistSrcOK`: whenever the source attribute of a resisted
affector spec reads as absent, the resistance attribute has no value either. -/
theorem driver_read_refines_partial (hwf : rankWF u = true) {s : TState}
    (inv : MInv (worldGraph u immune limited pen hwf) s.toM)
    (hef : ErrorFree u immune limited pen (worldGraph u immune limited pen hwf) s.cfg s.dyn)
    (hrs : ResistSrcOK u s.cfg s.dyn (spec (worldGraph u immune limited pen hwf (s.cfg, s.dyn))))
    (i : Nat) (a : Int) :
    ∃ S : Node → Bool, WStepOK u (worldGraph u immune limited pen hwf) s.toM (.read S) ∧
      (readStepT u immune limited pen s i a).1.toM = wstep u (worldGraph u immune limited pen hwf) s.toM (.read S) := by
  obtain ⟨hi, hle, _⟩ := readStepT_world hwf inv.uniq hef inv.good i a
  obtain ⟨S, hl, hc⟩ := legal_read_of_le hwf inv.uniq hrs hi hle
  refine ⟨S, hl, (TState.toM_eq _ hc).trans ?_⟩
  rw [(readStepT_cfg_dyn s i a).1, (readStepT_cfg_dyn s i a).2]
  rfl

/-! ## Whole driver runs

The correspondence harness feeds `Driver/Micro.lean` a list of lines: message lines (`ML MU MS MT MA MN BS MC` —
`mdoT`), `RC` (the configuration is replaced, registers and table stay — *no* re-packing), `MR` (public read,
`readStepT`).  `DStep` / `drun` are exactly that; `checkedRun` is what the driver evaluates on the way
(`stepOKb`, `stepFinb` for messages; `rcFinb` for `RC`). -/

inductive DStep
  /-- `ML MU MS MT MA MN BS MC`: a message, processed by `mdoT` -/
  | msg (st : MStep)
  /-- `RC`: the configuration parsed so far becomes current -/
  | rc (cfg' : Config)
  /-- `MR i a`: public read -/
  | rd (i : Nat) (a : Int)

section run
variable (u) (immune limited : List Int) (pen : Nat → Rat)

/-- What `Driver/Micro.lean` (`mstepLine`) does to its `TState` for one such line — written out here a second
time: the driver calls `mdoT` and `readStepT`, not `dstep` (lines that change the universe or reset the state
are outside `DStep`). -/
def dstep (s : TState) : DStep → TState
  | .msg st => mdoT u s st
  | .rc cfg' => { s with cfg := cfg' }
  | .rd i a => (readStepT u immune limited pen s i a).1

def drun (s : TState) (steps : List DStep) : TState := steps.foldl (dstep u immune limited pen) s

def isReconfig : MStep → Bool
  | .reconfig _ => true
  | _ => false

/-- A message is never a `reconfig`: the driver has no such line (`RC` is `DStep.rc`). -/
def dcheck (s : TState) : DStep → Bool
  | .msg st => !isReconfig st && stepOKb u s st && stepFinb u s st
  | .rc cfg' => rcFinb u s cfg'
  | .rd _ _ => true

def checkedRun : TState → List DStep → Bool
  | _, [] => true
  | s, st :: rest => dcheck u s st && checkedRun (dstep u immune limited pen s st) rest

/-- The side conditions of one line that are *not* executable (not evaluated by the driver):
* message: no attribute calculation of the state before and after divides by zero (load / unload / start / stop /
  apply / unapply only; discharges `StaticAround`);
* `RC`: the `reconfig` clause of `StepOK` — the new configuration has unique item ids, charges in modules of
  their own fit, recorded targets are still solar-system items, and the change is invisible to every cached node
  (same dependencies, same evaluation, same presence of the dependencies' values): legality of the
  reconfiguration itself, assumed.  A skill-level change arrives as `RC` then `MC i 280`, i.e. `reconfig` +
  `changed`, not as a `relevel` event (`DMatch` has none): once a reader of the level is cached this clause is false
  for it in general, so such runs are outside the run theorems;
* read: no calculation of the state divides by zero, and `ResistSrcOK` (a resisted affector spec whose source
  attribute reads as absent has no resistance value either; see `gapU` in `Lemmas/MicroExecRead.lean`). -/
def DSideOK (hwf : rankWF u = true) (s : TState) : DStep → Prop
  | .msg st => usesStatic st = true →
      ErrorFree u immune limited pen (worldGraph u immune limited pen hwf) s.cfg s.dyn ∧
      ErrorFree u immune limited pen (worldGraph u immune limited pen hwf) (mdoT u s st).cfg (mdoT u s st).dyn
  | .rc cfg' => StepOK (worldGraph u immune limited pen hwf) s.toM (.reconfig cfg')
  | .rd _ _ => ErrorFree u immune limited pen (worldGraph u immune limited pen hwf) s.cfg s.dyn ∧
      ResistSrcOK u s.cfg s.dyn (spec (worldGraph u immune limited pen hwf (s.cfg, s.dyn)))

def RunSideOK (hwf : rankWF u = true) : TState → List DStep → Prop
  | _, [] => True
  | s, st :: rest => DSideOK u immune limited pen hwf s st ∧
      RunSideOK hwf (dstep u immune limited pen s st) rest

end run

/-- The event of the histories above (`WStep`) a driver line is: a message is itself, `RC` is the `reconfig`
message, a read is the read event of *some* set of nodes (the set the read fills). -/
inductive DMatch : DStep → WStep → Prop
  | msg (st : MStep) : DMatch (.msg st) (.micro st)
  | rc (cfg' : Config) : DMatch (.rc cfg') (.micro (.reconfig cfg'))
  | rd (i : Nat) (a : Int) (S : Node → Bool) : DMatch (.rd i a) (.read S)

theorem driver_checked_dstep (hwf : rankWF u = true) (hun : UniqueAttrs u) (hR : ResistWF u) {s : TState}
    (hfin : DynFin u s.cfg s.dyn) (inv : MInv (worldGraph u immune limited pen hwf) s.toM) (st : DStep)
    (hchk : dcheck u s st = true) (hside : DSideOK u immune limited pen hwf s st) :
    ∃ w, DMatch st w ∧ WStepOK u (worldGraph u immune limited pen hwf) s.toM w ∧
      (dstep u immune limited pen s st).toM = wstep u (worldGraph u immune limited pen hwf) s.toM w ∧
      MInv (worldGraph u immune limited pen hwf) (dstep u immune limited pen s st).toM ∧
      DynFin u (dstep u immune limited pen s st).cfg (dstep u immune limited pen s st).dyn := by
  have T := worldGraph_ties (immune := immune) (limited := limited) (pen := pen) hwf
  cases st with
  | msg st =>
    simp only [dcheck, Bool.and_eq_true, Bool.not_eq_true'] at hchk
    obtain ⟨⟨hr, hb⟩, hf⟩ := hchk
    have hst : ∀ cfg', st ≠ .reconfig cfg' := fun cfg' he => by rw [he] at hr; cases hr
    have hsf := (stepFinb_iff hst).1 hf
    -- non-zero divisors before and after discharge `StaticAround`
    have hsa : StaticAround u (worldGraph u immune limited pen hwf) s.toM st := fun hs =>
      ⟨staticAt_of_errorFree T (hside hs).1, (mdoT_toM hfin st hsf).1 ▸ staticAt_of_errorFree T (hside hs).2⟩
    obtain ⟨ok, h1, _, _, inv', fin'⟩ := driver_checked_step_legal T hwf hun hR hfin inv hst hb hsf hsa
    exact ⟨.micro st, .msg st, ⟨ok, hsa⟩, h1, inv', fin'⟩
  | rc cfg' =>
    have ok : WStepOK u (worldGraph u immune limited pen hwf) s.toM (.micro (.reconfig cfg')) :=
      ⟨hside, fun h => by cases h⟩
    exact ⟨.micro (.reconfig cfg'), .rc cfg', ok, rfl, wstep_inv T hwf hun hR inv _ ok, rcFinb_sound hfin hchk⟩
  | rd i a =>
    obtain ⟨S, hl, he⟩ := driver_read_refines_partial hwf inv hside.1 hside.2 i a
    refine ⟨.read S, .rd i a S, hl, he, ?_, ?_⟩
    · show MInv _ (readStepT u immune limited pen s i a).1.toM
      rw [he]; exact wstep_inv T hwf hun hR inv _ hl
    · show DynFin u (readStepT u immune limited pen s i a).1.cfg (readStepT u immune limited pen s i a).1.dyn
      rw [(readStepT_cfg_dyn s i a).1, (readStepT_cfg_dyn s i a).2]; exact hfin

/-- **A checked run of the driver is a legal history of the model.**  `s` is a driver state with registers of the
form `DynFin` that satisfies `MInv` (e.g. the driver's initial state, `driver_init_ok`); `steps` is the list of
lines the harness sends (messages, `RC`, `MR`).

Evaluated by the driver at run time, a violation is printed (`illegal …` / `unnamed …`): `checkedRun`.  Not
checked by the driver: `RunSideOK` (line by line `DSideOK`), and `rankWF`, `UniqueAttrs`, `ResistWF` of the
universe.  The history `ws` of the model is line by line the driver's (`DMatch`); `MInv` in the driver's final
state means that every read returns the from-scratch value of the current registers. -/
theorem driver_checked_run_legal (hwf : rankWF u = true) (hun : UniqueAttrs u) (hR : ResistWF u) :
    ∀ (steps : List DStep) (s : TState), DynFin u s.cfg s.dyn → MInv (worldGraph u immune limited pen hwf) s.toM →
      checkedRun u immune limited pen s steps = true → RunSideOK u immune limited pen hwf s steps →
      ∃ ws : List WStep, List.Forall₂ DMatch steps ws ∧
        WRunOK u (worldGraph u immune limited pen hwf) s.toM ws ∧
        (drun u immune limited pen s steps).toM = wrun u (worldGraph u immune limited pen hwf) s.toM ws ∧
        MInv (worldGraph u immune limited pen hwf) (drun u immune limited pen s steps).toM ∧
        DynFin u (drun u immune limited pen s steps).cfg (drun u immune limited pen s steps).dyn
  | [], s, hfin, inv, _, _ => ⟨[], .nil, trivial, rfl, inv, hfin⟩
  | st :: rest, s, hfin, inv, hchk, hside => by
    have hchk' : (dcheck u s st && checkedRun u immune limited pen (dstep u immune limited pen s st) rest) = true :=
      hchk
    rw [Bool.and_eq_true] at hchk'
    obtain ⟨w, hm, hok, he, inv', fin'⟩ := driver_checked_dstep hwf hun hR hfin inv st hchk'.1 hside.1
    obtain ⟨ws, hms, hoks, hes, invF, finF⟩ :=
      driver_checked_run_legal hwf hun hR rest (dstep u immune limited pen s st) fin' inv' hchk'.2 hside.2
    refine ⟨w :: ws, .cons hm hms, ⟨hok, he ▸ hoks⟩, ?_, invF, finF⟩
    show (drun u immune limited pen (dstep u immune limited pen s st) rest).toM =
      wrun u (worldGraph u immune limited pen hwf) (wstep u (worldGraph u immune limited pen hwf) s.toM w) ws
    rw [hes, he]

/-- The driver's initial state (and its state after an `X` line) — empty configuration, empty registers, empty
table — has registers of the form `DynFin` and satisfies the invariant. -/
theorem driver_init_ok :
    DynFin u ({} : Config) { loaded := fun _ => false, on := fun _ _ => false, tgts := fun _ _ => [] } ∧
    MInv W (TState.toM ⟨{}, { loaded := fun _ => false, on := fun _ _ => false, tgts := fun _ _ => [] }, []⟩) :=
  ⟨dynFin_idle fun _ h => (nomatch h),
    micro_inv_init (by unfold UniqueIds; exact List.nodup_nil) (fun x hx => (by cases hx))
      (tgtKinds_of_nil fun _ _ => rfl)⟩

/-- **What the driver prints for a read in a settled state is the entry of the specification's table**: state with
`MInv` that is `BuffSettled`, table without `divZero`; for a configured item `y` and an attribute with metadata the
value `readStepT` returns — the one the harness compares with the real code's `attrs[a]` — is `World.read` of
`World.evalAll`. -/
theorem driver_settled_read_eq_table (hwf : rankWF u = true) (hun : UniqueAttrs u)
    (hnp : ∀ e ∈ u.effects, e.isBuff = true → e.category ≠ 2) {s : TState}
    (inv : MInv (worldGraph u immune limited pen hwf) s.toM)
    (hset : BuffSettled u s.cfg immune limited pen s.dyn)
    (hnz : ∀ entry ∈ evalAll u s.cfg immune limited pen, entry.2 ≠ .divZero)
    {i : Nat} {y : Item} (hy : item? s.cfg i = some y) {am : AttrMeta} (ham : am ∈ u.attrs) :
    (readStepT u immune limited pen s i am.id).2 = World.read (evalAll u s.cfg immune limited pen) y am.id := by
  have hU : UniqueIds s.cfg := inv.uniq
  have hef := errorFree_of_buffSettled hwf hun hU hnp hset hnz
  rw [(driver_read_value hwf inv hef hy am.id).1]
  exact readerOf_eq_read hwf fun _ _ =>
    settled_spec_eq_table_buff_of_errorFree hwf hun hU hnp hset hef (item?_mem hy) ham

/-- **A checked driver run that ends in a settled state prints table entries.**  Hypotheses of
`driver_checked_run_legal` plus, non-executable as well: `hnp`, the final state is `BuffSettled` (the harness
compares exactly this with the real service: driver command `QB`), and the table of the final configuration has no
`divZero` entry. -/
theorem driver_checked_run_reads_table (hwf : rankWF u = true) (hun : UniqueAttrs u) (hR : ResistWF u)
    (hnp : ∀ e ∈ u.effects, e.isBuff = true → e.category ≠ 2) {s : TState} (hfin : DynFin u s.cfg s.dyn)
    (inv : MInv (worldGraph u immune limited pen hwf) s.toM) (steps : List DStep)
    (hchk : checkedRun u immune limited pen s steps = true) (hside : RunSideOK u immune limited pen hwf s steps)
    (sF : TState) (hF : drun u immune limited pen s steps = sF)
    (hset : BuffSettled u sF.cfg immune limited pen sF.dyn)
    (hnz : ∀ entry ∈ evalAll u sF.cfg immune limited pen, entry.2 ≠ .divZero)
    {i : Nat} {y : Item} (hy : item? sF.cfg i = some y) {am : AttrMeta} (ham : am ∈ u.attrs) :
    (readStepT u immune limited pen sF i am.id).2 = World.read (evalAll u sF.cfg immune limited pen) y am.id := by
  subst hF
  obtain ⟨_, _, _, _, invF, _⟩ := driver_checked_run_legal hwf hun hR steps s hfin inv hchk hside
  exact driver_settled_read_eq_table hwf hun hnp invF hset hnz hy ham

theorem dmatch_msgs : ∀ (l : List MStep) (ws : List WStep), List.Forall₂ DMatch (l.map .msg) ws →
    ws = l.map .micro
  | [], _, h => by cases h; rfl
  | st :: l, _, h => by
    cases h with
    | cons h1 h2 => cases h1; rw [dmatch_msgs l _ h2]; rfl

/-! ## The driver on the example worlds

In the one-ship world `tinyS` with `(ship, 2)` cached, `EffectsStarted` of effect 100 is a
message of the form `StepFin` on registers of the form `DynFin`; the driver's step is the model's, which
force-recalculates `(ship, 2)`: the entry is gone from the driver's table. -/

example : DynFin tinyU tinyS.cfg tinyS.dyn ∧ StepFin tinyU tinyS.cfg tinyS.dyn (.start 0 [100]) ∧
    tblFun [((0, 2), (7 : Rat))] (0, 2) = some 7 ∧
    tblFun (mdoT tinyU ⟨tinyS.cfg, tinyS.dyn, [((0, 2), 7)]⟩ (.start 0 [100])).tbl (0, 2) = none := by
  have hD : DynFin tinyU tinyS.cfg tinyS.dyn :=
    dynFin_idle fun i h => ⟨_, List.mem_cons_self, (show i = 0 by simpa using h).symm⟩
  have hS : StepFin tinyU tinyS.cfg tinyS.dyn (.start 0 [100]) := by
    intro e he
    rw [List.mem_singleton.1 he]
    exact ⟨_, List.mem_cons_self, rfl, by decide⟩
  refine ⟨hD, hS, by decide, ?_⟩
  have h := congrArg MState.cache
    ((driver_step_refines (u := tinyU) ⟨tinyS.cfg, tinyS.dyn, [((0, 2), 7)]⟩ (.start 0 [100])).2 hD hS).1
  have hK : ∀ x, tblFun [((0, 2), (7 : Rat))] x ≠ none → HasMeta tinyU x := by
    intro x hx
    obtain ⟨p, hp, rfl⟩ := tblFun_ne_none_iff.1 hx
    rw [List.mem_singleton.1 hp]; unfold HasMeta; decide
  show (mdoT tinyU ⟨tinyS.cfg, tinyS.dyn, [((0, 2), 7)]⟩ (.start 0 [100])).toM.cache (0, 2) = none
  rw [h]
  exact (cascade_closed tinyS.cfg (setOn tinyS.dyn 0 [100] true) (by decide) (by unfold UniqueAttrs; decide) _ hK
    _).2.1 (0, 2) (by decide)

/-! The read theorems on the two-item world before any effect runs (`settleS0` of `Lemmas/WorldFixtures.lean` with
a table for the cache): the read of the ship's attribute 37 returns its base value.  `ResistSrcOK` holds because
the universe has no resisted effect. -/

example : (readStepT settleU specImmune specLimited (fun _ => 1) ⟨settleCfg, settleD0, []⟩ 1 37).2 = .ok 100 ∧
    ∃ S, WStepOK settleU settleW (TState.toM ⟨settleCfg, settleD0, []⟩) (.read S) ∧
      (readStepT settleU specImmune specLimited (fun _ => 1) ⟨settleCfg, settleD0, []⟩ 1 37).1.toM =
        wstep settleU settleW (TState.toM ⟨settleCfg, settleD0, []⟩) (.read S) := by
  refine ⟨by decide +kernel, driver_read_refines_partial (s := ⟨settleCfg, settleD0, []⟩) settle_rank
    ⟨good_init _ _, settle_wf.2.2.1, settle_wf.2.2.2.1, settle_wf.2.2.2.2⟩ (by unfold ErrorFree; decide +kernel)
    (resistSrcOK_of_noResist (by decide)) 1 37⟩

/-! ### The driver's checks on the messages of `fleetHist`

The driver starts in `fleetT0` (the state `fleetS0` with an empty table) and processes the four messages of
`fleetHist` with `mdoT`.  In each of the four states the check `stepOKb` evaluates to `true` and the message is of
the form `StepFin`; that the four steps are legal is `fleetT4_legal` below, through the run theorem. -/

def fleetT0 : TState := ⟨fleetCfg, fleetD0, []⟩
abbrev fleetT1 : TState := mdoT fleetU fleetT0 (.start 2 [2000])
abbrev fleetT2 : TState := mdoT fleetU fleetT1 (.unapply 2 2000 [])
abbrev fleetT3 : TState := mdoT fleetU fleetT2 (.buffset 2 2000 [fleetBM])
abbrev fleetT4 : TState := mdoT fleetU fleetT3 (.apply 2 2000 [1, 3])

theorem fleet_dynFin0 : DynFin fleetU fleetCfg fleetD0 :=
  dynFin_idle (dynFin_derivedDyn (by decide)).loaded

/-- The check passes in each of the four states (evaluated by the kernel). -/
example : stepOKb fleetU fleetT0 (.start 2 [2000]) = true ∧ stepOKb fleetU fleetT1 (.unapply 2 2000 []) = true ∧
    stepOKb fleetU fleetT2 (.buffset 2 2000 [fleetBM]) = true ∧
    stepOKb fleetU fleetT3 (.apply 2 2000 [1, 3]) = true ∧
    -- and it is not constantly `true`: stopping the boost while it is applied, applying it to the module, or
    -- unloading a boosted ship are rejected in the final state
    stepOKb fleetU fleetT4 (.stop 2 [2000]) = false ∧ stepOKb fleetU fleetT4 (.apply 2 2000 [2]) = false ∧
    stepOKb fleetU fleetT4 (.unload 3) = false ∧ stepOKb fleetU fleetT4 (.unload 2) = false := by
  decide +kernel

/-- The hypothesis `StepFin` is decided by `stepFinb` (`stepFinb_iff`); it evaluates to `true` on the four
messages, and to `false` for an effect the module's type does not list. -/
example : stepFinb fleetU fleetT0 (.start 2 [2000]) = true ∧ stepFinb fleetU fleetT1 (.unapply 2 2000 []) = true ∧
    stepFinb fleetU fleetT2 (.buffset 2 2000 [fleetBM]) = true ∧
    stepFinb fleetU fleetT3 (.apply 2 2000 [1, 3]) = true ∧ stepFinb fleetU fleetT0 (.start 2 [2001]) = false ∧
    StepFin fleetU fleetT3.cfg fleetT3.dyn (.apply 2 2000 [1, 3]) :=
  ⟨by decide +kernel, by decide +kernel, by decide +kernel, by decide +kernel, by decide +kernel,
    (stepFinb_iff (fun _ h => by cases h)).1 (by decide +kernel)⟩

/-! ### The run theorems on the fleet history as driver lines

`fleetDSteps`: the four messages of `fleetHist` and the read `MR 3 37`, from the driver state `fleetT0`.
`checkedRun` evaluates to `true`; `RunSideOK` holds (no calculation divides by zero; the universe has no resisted
effect, so `ResistSrcOK` is vacuous); the run theorem applies; the final state is `BuffSettled`, and a final
`MR 3 37` prints the table's entry, 150. -/

def fleetDSteps : List DStep :=
  [.msg (.start 2 [2000]), .msg (.unapply 2 2000 []), .msg (.buffset 2 2000 [fleetBM]),
   .msg (.apply 2 2000 [1, 3]), .rd 3 37]

abbrev fleetT5 : TState := drun fleetU specImmune specLimited fleetPen fleetT0 fleetDSteps

theorem fleet_checkedRun : checkedRun fleetU specImmune specLimited fleetPen fleetT0 fleetDSteps = true := by
  decide +kernel

/-- The check is not constantly `true`: an `RC` to a configuration without the boosting module, or without a
boosted ship, is rejected after the boost was applied; so is a `reconfig` message.  These evaluate `checkedRun`
only: no example discharges `DSideOK` for an `RC` line. -/
example : checkedRun fleetU specImmune specLimited fleetPen fleetT4 [.rc { fleetCfg with items := [fleetShip1, fleetShip3] }]
      = false ∧
    checkedRun fleetU specImmune specLimited fleetPen fleetT4 [.rc { fleetCfg with items := [fleetShip1, fleetMod] }]
      = false ∧
    checkedRun fleetU specImmune specLimited fleetPen fleetT4 [.rc fleetCfg] = true ∧
    checkedRun fleetU specImmune specLimited fleetPen fleetT4 [.msg (.reconfig fleetCfg)] = false := by
  decide +kernel

theorem fleet_sideOK :
    RunSideOK fleetU specImmune specLimited fleetPen fleet_wf.1 fleetT0 fleetDSteps := by
  have ef : [fleetT0, fleetT1, fleetT2, fleetT3, fleetT4].Forall fun s =>
      ErrorFree fleetU specImmune specLimited fleetPen fleetW s.cfg s.dyn := by
    unfold ErrorFree; decide +kernel
  obtain ⟨e0, e1, e2, e3, e4⟩ := ef
  exact ⟨fun _ => ⟨e0, e1⟩, fun _ => ⟨e1, e2⟩, fun h => (by cases h), fun _ => ⟨e3, e4⟩,
    ⟨e4, resistSrcOK_of_noResist (by decide)⟩, trivial⟩

/-- The run theorem applies to the driver's run; the driver's state is the model's after `fleetHist`'s messages and
a read event. -/
example : ∃ ws : List WStep, List.Forall₂ DMatch fleetDSteps ws ∧ WRunOK fleetU fleetW fleetT0.toM ws ∧
    fleetT5.toM = wrun fleetU fleetW fleetT0.toM ws ∧ MInv fleetW fleetT5.toM ∧
    DynFin fleetU fleetT5.cfg fleetT5.dyn :=
  driver_checked_run_legal fleet_wf.1 fleet_wf.2.1 fleet_wf.2.2.1 fleetDSteps fleetT0 fleet_dynFin0
    (micro_inv_init fleet_wf.2.2.2.1 fleet_wf.2.2.2.2.1 fleet_wf.2.2.2.2.2) fleet_checkedRun fleet_sideOK

/-- The four messages alone: the driver's state is the model's after the messages of `fleetHist`, with invariant
and register form. -/
theorem fleetT4_legal : MInv fleetW fleetT4.toM ∧ DynFin fleetU fleetT4.cfg fleetT4.dyn ∧
    fleetT4.toM = wrun fleetU fleetW fleetS0 (fleetHist.take 4) := by
  obtain ⟨ws, hm, _, he, inv, fin⟩ := driver_checked_run_legal (immune := specImmune) (limited := specLimited)
    (pen := fleetPen) fleet_wf.1 fleet_wf.2.1 fleet_wf.2.2.1 (fleetDSteps.take 4) fleetT0 fleet_dynFin0
    (micro_inv_init fleet_wf.2.2.2.1 fleet_wf.2.2.2.2.1 fleet_wf.2.2.2.2.2) (by decide +kernel)
    ⟨fleet_sideOK.1, fleet_sideOK.2.1, fleet_sideOK.2.2.1, fleet_sideOK.2.2.2.1, trivial⟩
  rw [dmatch_msgs [.start 2 [2000], .unapply 2 2000 [], .buffset 2 2000 [fleetBM], .apply 2 2000 [1, 3]] ws hm] at he
  exact ⟨inv, fin, he⟩

example : MInv fleetW fleetT4.toM ∧ DynFin fleetU fleetT4.cfg fleetT4.dyn ∧
    fleetT4.toM = wrun fleetU fleetW fleetS0 (fleetHist.take 4) ∧
    fleetT4.dyn.tgts 2 2000 = [1, 3] ∧ fleetT4.dyn.bspecs 2 2000 = [fleetBM] :=
  ⟨fleetT4_legal.1, fleetT4_legal.2.1, fleetT4_legal.2.2, by decide +kernel⟩

theorem fleetT5_cfg : fleetT5.cfg = fleetCfg := (readStepT_cfg_dyn fleetT4 3 37).1

theorem fleetT5_settled : BuffSettled fleetU fleetT5.cfg specImmune specLimited fleetPen fleetT5.dyn := by
  have hd : fleetT5.dyn = (wrun fleetU fleetW fleetS0 fleetHist).dyn :=
    (readStepT_cfg_dyn fleetT4 3 37).2.trans (congrArg MState.dyn fleetT4_legal.2.2)
  rw [fleetT5_cfg, hd]
  exact fleet_hset

/-- **The value the driver prints for a final `MR 3 37` after the checked run is the table's entry, 150.** -/
example : (readStepT fleetU specImmune specLimited fleetPen fleetT5 3 37).2 = .ok 150 := by
  have h := driver_checked_run_reads_table (immune := specImmune) (limited := specLimited) (pen := fleetPen)
    fleet_wf.1 fleet_wf.2.1 fleet_wf.2.2.1 fleet_hnp fleet_dynFin0
    (micro_inv_init fleet_wf.2.2.2.1 fleet_wf.2.2.2.2.1 fleet_wf.2.2.2.2.2) fleetDSteps fleet_checkedRun fleet_sideOK
    fleetT5 rfl fleetT5_settled fleet_evalAll.1 (i := 3) (y := fleetShip3)
    (fleetT5_cfg ▸ fleet_item3) fleet_attr37
  rw [h, fleetT5_cfg]
  exact fleet_evalAll.2.2

end Eos.C01World
