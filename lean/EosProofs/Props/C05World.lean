import EosModel.World
import EosModel.EffectStatusSpec
import EosModel.EffectStatus
import EosProofs.Props.C05
import EosProofs.Lemmas.C05Runs
/-! # C05 ↔ world specification: `World.runsEffect` is the effect-status specification `decideStatus`

Two hand-written statements of "does effect `e` of item `x` run?" exist:

* (a) `World.runsEffect` / `World.runningEffects` (`EosModel/World.lean`), on which every attribute-value
  theorem of the world specification (C01, C02, C09–C14) rests;
* (b) `EffectStatus.decideStatus` (`EosModel/EffectStatusSpec.lean`), which `EosProofs/Props/C05.lean` proves equal,
  row by row, to the decision table regenerated from the real `EffectStatusResolver` (`C05.table_matches_spec`).

This file proves (a) = (b) on the whole domain the real code accepts — for one effect, for the running set of a
loaded item, in the vocabulary of C05's state machine (`TypeDef.status`, `Core.resolve`), and as the outcome digit
of the regenerated table — and says exactly what (a) does outside it. How the arguments correspond is what
`traitsOf`, `catState?` (`Lemmas/C05Runs.lean`) and `specStatus`, `specOnlineRuns` below spell out; the run mode
needs no side condition (both sides say "does not run" for a value that is not an `EffectMode`).

Outside the side conditions:
* category without a state (3 area, 6 dungeon, ≥ 8 not a category): (a) says "does not run" in every run mode,
  force_run included (`runsEffect_no_state`); (b) has no value (`Key.spec = none`, `keySpec_no_state`). The
  regenerated table differs from (a) here: the resolver looks the category's state up in the two compliance
  modes only (KeyError there), and under force_run it records "runs" (row `⟨offline, 3, area, …⟩` has outcome 1)
  where (a) says "does not run". Such effects are outside the property;
* item state 0: no `State`; (a) runs exactly the force_run effects (`runsEffect_state_zero`); item state ≥ 4
  behaves as overload (`runsEffect_state_above`). Item states are `State` enum members 1..4 in the real code.

What the table's key space does not cover and (a) distinguishes: an effect with id 16 whose category is not
`online`. (a) and `decideStatus` treat it by its category (they agree, `runsEffect_eq_decideStatus` has no hypothesis about it), but
the generated product has the `self` rows only in category `online`, and resolves a *present* 'online' effect
as an online-category effect, because `EffectFactory` rewrites the category of effect 16 to `online`
(`eos/eve_obj/custom/online_effect_category.py`). The table corollaries therefore carry the hypothesis "effect 16
has category 4". The table's `override` dimension (state override of side-effect / ability status queries) is not
used by the world specification: keys have `override := none`. -/
namespace Eos.C05World
open Eos.World Eos.EffectStatus
open EosGen.EffectStatusTable (table)

/-- Effects of a type that the universe knows, in the type's order (what `runningEffects` filters). -/
def typeEffects (u : Universe) (ty : ItemType) : List Effect := ty.effects.filterMap (effect? u)

/-- How `runningEffects` obtains `onlineRunning` from the type's 'online' effect (if any). -/
def onlineRunningOf (it : Item) (ty : ItemType) (oe? : Option Effect) : Bool :=
  match oe? with
  | some oe => runsEffect it ty oe false
  | none => false

/-- Decision (b) on world data; `none` = the category has no state (outside the property). -/
def specStatus (st : State) (it : Item) (ty : ItemType) (e : Effect) (onlineRuns : Bool) : Option Bool :=
  (catState? e.category).map fun es =>
    decideStatus st (ModeK.ofId (modeOf it e.id)) es (traitsOf ty e) onlineRuns

/-- `onlineRuns` as C05's model threads it (`TypeDef.onlineRuns`): the decision for the type's effect 16,
    itself taken with `onlineRuns := false`; `false` when the type has no such effect. -/
def specOnlineRuns (st : State) (it : Item) (ty : ItemType) (effs : List Effect) : Bool :=
  match effs.find? (·.id == 16) with
  | none => false
  | some oe => specStatus st it ty oe false == some true

theorem catOfNat?_eq_some {n : Nat} {c : Cat} : Cat.ofNat? n = some c ↔ n = c.toNat := by
  constructor
  · intro h
    have h2 := List.find?_some h
    simp only [beq_iff_eq] at h2
    exact h2.symm
  · rintro rfl; exact C05.catOfNat?_toNat c

theorem catState?_toNat (c : Cat) : catState? c.toNat = c.state? := by
  simp [catState?, C05.catOfNat?_toNat]

/-- The categories without a state are exactly 3 (area), 6 (dungeon) and the ids that are no category. -/
theorem categoryState_eq_none_iff (c : Nat) : categoryState c = none ↔ c = 3 ∨ c = 6 ∨ 8 ≤ c := by
  rcases c with _ | _ | _ | _ | _ | _ | _ | _ | c <;> first | decide | exact iff_of_true rfl (by omega)

theorem state_toNat_range (st : State) : 1 ≤ st.toNat ∧ st.toNat ≤ 4 := by cases st <;> decide

/-- **(a) = (b) for one effect.** For every item, type, effect and `onlineRunning`: when the item's state is the
    `State` `st` and the effect's category has the state `es`, `World.runsEffect` is `decideStatus` applied to
    the item's run mode for the effect (default full compliance; any stored value, `ModeK.unknown` for a value
    that is not an `EffectMode`), the category's state, the traits (is it the type's default effect, does it
    name a chance attribute, is it effect 16) and `onlineRunning`. -/
theorem runsEffect_eq_decideStatus (it : Item) (ty : ItemType) (e : Effect) (onlineRunning : Bool)
    (st es : State) (hst : it.state = st.toNat) (hes : categoryState e.category = some es.toNat) :
    runsEffect it ty e onlineRunning =
      decideStatus st (ModeK.ofId (modeOf it e.id)) es (traitsOf ty e) onlineRunning := by
  rw [runsEffect_eq, catState?_eq_some.2 hes, hst, decideStatus_eq_decideOf]; rfl

/-- The same with the side conditions as decidable hypotheses on the raw numbers: item state in 1..4 and a
    category that has a state. (No condition on the run mode is needed.) -/
theorem runsEffect_eq_decideStatus_of_valid (it : Item) (ty : ItemType) (e : Effect) (onlineRunning : Bool)
    (h1 : 1 ≤ it.state) (h4 : it.state ≤ 4) (hc : (categoryState e.category).isSome = true) :
    ∃ st es, State.ofNat? it.state = some st ∧ catState? e.category = some es ∧
      runsEffect it ty e onlineRunning =
        decideStatus st (ModeK.ofId (modeOf it e.id)) es (traitsOf ty e) onlineRunning := by
  obtain ⟨st, hst⟩ : ∃ st : State, it.state = st.toNat := by
    rcases hs : it.state with _ | _ | _ | _ | _ | n
    · omega
    · exact ⟨.offline, rfl⟩
    · exact ⟨.online, rfl⟩
    · exact ⟨.active, rfl⟩
    · exact ⟨.overload, rfl⟩
    · omega
  rw [categoryState_eq_spec, Option.isSome_map] at hc
  obtain ⟨es, hes⟩ := Option.isSome_iff_exists.1 hc
  exact ⟨st, es, stateOfNat?_eq_some.2 hst, hes,
    runsEffect_eq_decideStatus it ty e onlineRunning st es hst (catState?_eq_some.1 hes)⟩

/-- In the form of `specStatus`: for a valid item state, (a) is (b) where (b) has a value and `false` where it
    has none. -/
theorem runsEffect_eq_specStatus (it : Item) (ty : ItemType) (e : Effect) (onlineRunning : Bool)
    (st : State) (hst : it.state = st.toNat) :
    runsEffect it ty e onlineRunning = (specStatus st it ty e onlineRunning == some true) := by
  rw [runsEffect_eq, specStatus, hst]
  cases catState? e.category with
  | none => rfl
  | some es => simp [decideStatus_eq_decideOf, State.le]

/-- Category without a state (area, dungeon, not a category id): (a) never runs the effect, whatever the run
    mode — force_run included, where the regenerated table says "runs" (see the head comment). -/
theorem runsEffect_no_state (it : Item) (ty : ItemType) (e : Effect) (onlineRunning : Bool)
    (h : categoryState e.category = none) : runsEffect it ty e onlineRunning = false := by
  rw [categoryState_eq_spec, Option.map_eq_none_iff] at h
  rw [runsEffect_eq, h]; rfl

/-- ... and the specification's table rows of those categories carry no specified outcome. -/
theorem keySpec_no_state (k : Key) (h : k.cat = .area ∨ k.cat = .dungeon) : k.spec = none := by
  rcases h with h | h <;> simp [Key.spec, h, Cat.state?]

/-- A stored run mode that is not an `EffectMode` (not 1..4): does not run (both sides; this is the
    `ModeK.unknown` case of `runsEffect_eq_decideStatus`, stated without the other side conditions). -/
theorem runsEffect_unknown_mode (it : Item) (ty : ItemType) (e : Effect) (onlineRunning : Bool)
    (hm : ¬(1 ≤ modeOf it e.id ∧ modeOf it e.id ≤ 4)) : runsEffect it ty e onlineRunning = false := by
  rw [runsEffect_eq, ofId_of_not_mode hm]
  cases catState? e.category <;> rfl

/-- Item state 0 (below every `State`): (a) runs exactly the effects in force_run mode. -/
theorem runsEffect_state_zero (it : Item) (ty : ItemType) (e : Effect) (onlineRunning : Bool)
    (es : Nat) (h0 : it.state = 0) (hes : categoryState e.category = some es) :
    runsEffect it ty e onlineRunning = decide (modeOf it e.id = 3) := by
  rw [categoryState_eq_spec] at hes
  obtain ⟨es', hes', -⟩ := Option.map_eq_some_iff.1 hes
  rw [runsEffect_eq, hes', h0, Option.any_some, decide_eq_false (Nat.not_le.2 (state_toNat_range es').1)]
  generalize modeOf it e.id = m
  rcases m with _ | _ | _ | _ | _ | m <;> rfl

/-- Item state above overload: (a) decides as for overload. -/
theorem runsEffect_state_above (it : Item) (ty : ItemType) (e : Effect) (onlineRunning : Bool)
    (es : State) (h4 : 4 ≤ it.state) (hes : categoryState e.category = some es.toNat) :
    runsEffect it ty e onlineRunning =
      decideStatus .overload (ModeK.ofId (modeOf it e.id)) es (traitsOf ty e) onlineRunning := by
  rw [runsEffect_eq, catState?_eq_some.2 hes, Option.any_some, decideStatus_eq_decideOf,
    decide_eq_true (Nat.le_trans (state_toNat_range es).2 h4)]
  cases es <;> rfl

theorem runningEffects_unloaded (u : Universe) (cfg : Config) (it : Item) (h : itemType? u cfg it = none) :
    runningEffects u cfg it = [] := by
  simp [runningEffects, h]

/-- `runningEffects` of a loaded item, with its two local definitions named. -/
theorem runningEffects_loaded (u : Universe) (cfg : Config) (it : Item) (ty : ItemType)
    (hty : itemType? u cfg it = some ty) :
    runningEffects u cfg it =
      (typeEffects u ty).filter fun e =>
        runsEffect it ty e (onlineRunningOf it ty ((typeEffects u ty).find? (·.id == 16))) := by
  unfold runningEffects
  simp only [hty]
  rfl

theorem onlineRunningOf_eq_spec (it : Item) (ty : ItemType) (effs : List Effect) (st : State)
    (hst : it.state = st.toNat) :
    onlineRunningOf it ty (effs.find? (·.id == 16)) = specOnlineRuns st it ty effs := by
  unfold onlineRunningOf specOnlineRuns
  cases effs.find? (·.id == 16) with
  | none => rfl
  | some oe => exact runsEffect_eq_specStatus it ty oe false st hst

/-- **The running set of a loaded item is exactly the effects of its type that `decideStatus` says run**, with
    `onlineRuns` the decision for the type's 'online' effect (false if it has none). -/
theorem runningEffects_eq_spec (u : Universe) (cfg : Config) (it : Item) (ty : ItemType) (st : State)
    (hty : itemType? u cfg it = some ty) (hst : it.state = st.toNat) :
    runningEffects u cfg it =
      (typeEffects u ty).filter fun e =>
        specStatus st it ty e (specOnlineRuns st it ty (typeEffects u ty)) == some true := by
  rw [runningEffects_loaded u cfg it ty hty, onlineRunningOf_eq_spec it ty (typeEffects u ty) st hst]
  apply List.filter_congr
  intro e _
  exact runsEffect_eq_specStatus it ty e _ st hst

/-- Membership form, with `decideStatus` visible: `e` runs iff it is an effect of the item's type, its category
    has a state `es`, and `decideStatus` for (item state, run mode, `es`, traits, threaded `onlineRuns`) holds. -/
theorem mem_runningEffects_iff (u : Universe) (cfg : Config) (it : Item) (ty : ItemType) (st : State)
    (hty : itemType? u cfg it = some ty) (hst : it.state = st.toNat) (e : Effect) :
    e ∈ runningEffects u cfg it ↔
      e ∈ typeEffects u ty ∧ ∃ es, catState? e.category = some es ∧
        decideStatus st (ModeK.ofId (modeOf it e.id)) es (traitsOf ty e)
          (specOnlineRuns st it ty (typeEffects u ty)) = true := by
  rw [runningEffects_eq_spec u cfg it ty st hty hst]
  simp only [List.mem_filter, beq_iff_eq, specStatus, Option.map_eq_some_iff]

/-- `specOnlineRuns` unfolded: the threading of `C05.status_def`, with `false` for an 'online' effect whose
    category has no state. -/
theorem specOnlineRuns_eq (st : State) (it : Item) (ty : ItemType) (effs : List Effect) :
    specOnlineRuns st it ty effs =
      match effs.find? (·.id == 16) with
      | none => false
      | some oe => match catState? oe.category with
        | none => false
        | some es => decideStatus st (ModeK.ofId (modeOf it oe.id)) es (traitsOf ty oe) false := by
  unfold specOnlineRuns
  cases effs.find? (·.id == 16) with
  | none => rfl
  | some oe =>
    simp only [specStatus]
    cases catState? oe.category <;> simp

/-! The same in the vocabulary of C05's state machine (`TypeDef.status`, `Core.resolve`).

`C05.running_eq_spec` says that after any history an item's recorded running set is
`{e ∈ t.effects | t.status modes state e}`. Here: the world specification's running set is that set, for the
translation of the world's type (effect ids `Int → Nat`; effects of categories without a state — which (a) never
runs — dropped, since `EffectDef.estate` is a `State`). Ids are non-negative in the
real data; the hypothesis is needed because `Int.toNat` is injective only there. -/

def toEffectDef? (e : Effect) : Option EffectDef :=
  (catState? e.category).map fun es => ⟨e.id.toNat, es, e.chanceAttr.isSome, none⟩

def toTypeDef (u : Universe) (ty : ItemType) : TypeDef :=
  ⟨(typeEffects u ty).filterMap toEffectDef?, ty.defaultEffect.map Int.toNat, []⟩

def toModes (it : Item) : List (Nat × Nat) := it.modes.map fun p => (p.1.toNat, p.2)

/-- Two effects of a type with the same id are the same effect (both are the universe's effect of that id). -/
theorem typeEffects_id_inj (u : Universe) (ty : ItemType) {a b : Effect} (ha : a ∈ typeEffects u ty)
    (hb : b ∈ typeEffects u ty) (h : a.id = b.id) : a = b := by
  simp only [typeEffects, List.mem_filterMap, effect?] at ha hb
  obtain ⟨i, _, hi⟩ := ha
  obtain ⟨j, _, hj⟩ := hb
  have h1 : a.id = i := by simpa using List.find?_some hi
  have h2 : b.id = j := by simpa using List.find?_some hj
  have : i = j := by rw [← h1, ← h2, h]
  subst this
  exact Option.some.inj (hi.symm.trans hj)

theorem toEffectDef?_id {e : Effect} {ed : EffectDef} (h : toEffectDef? e = some ed) : ed.id = e.id.toNat := by
  obtain ⟨es, _, rfl⟩ := Option.map_eq_some_iff.1 h
  rfl

section status
variable (u : Universe) (it : Item) (ty : ItemType) (st : State)

theorem runsEffect_eq_decideStatus_typeDef (hst : it.state = st.toNat)
    (hmodes : ∀ p ∈ it.modes, 0 ≤ p.1) (hdef : ∀ d, ty.defaultEffect = some d → 0 ≤ d)
    (e : Effect) (he : 0 ≤ e.id) (o : Bool) :
    runsEffect it ty e o = (toEffectDef? e).any fun ed =>
      decideStatus st (ModeK.ofId (getMode (toModes it) ed.id)) ed.estate ((toTypeDef u ty).traits ed) o := by
  rw [runsEffect_eq, toEffectDef?, hst]
  cases catState? e.category with
  | none => rfl
  | some es =>
    have hm : getMode (toModes it) e.id.toNat = modeOf it e.id := getMode_toModes it.modes e.id hmodes he
    have ht : (toTypeDef u ty).traits ⟨e.id.toNat, es, e.chanceAttr.isSome, none⟩ = traitsOf ty e := by
      simp only [TypeDef.traits, toTypeDef, traitsOf, onlineId]
      congr 1
      · cases hd : ty.defaultEffect with
        | none => rfl
        | some d => exact toNat_beq (hdef d hd) he
      · exact toNat_beq (b := 16) he (by decide)
    simp only [Option.map_some, Option.any_some, hm, ht, decideStatus_eq_decideOf]; rfl

theorem onlineRuns_toTypeDef (hst : it.state = st.toNat)
    (hid : ∀ e ∈ typeEffects u ty, 0 ≤ e.id) (hmodes : ∀ p ∈ it.modes, 0 ≤ p.1)
    (hdef : ∀ d, ty.defaultEffect = some d → 0 ≤ d) :
    (toTypeDef u ty).onlineRuns (toModes it) st =
      onlineRunningOf it ty ((typeEffects u ty).find? (·.id == 16)) := by
  -- the translated type's effect 16 is the translation of the type's effect 16 (ids are unique)
  have hfind : (toTypeDef u ty).effects.find? (·.id == onlineId) =
      ((typeEffects u ty).find? (·.id == 16)).bind toEffectDef? :=
    find?_filterMap_of toEffectDef? (·.id == 16) (·.id == onlineId) _
      (fun a ha b hab => by rw [toEffectDef?_id hab]; exact toNat_beq (b := 16) (hid a ha) (by decide))
      (fun a ha a' ha' h h' => typeEffects_id_inj u ty ha ha' ((beq_iff_eq.1 h).trans (beq_iff_eq.1 h').symm))
  unfold TypeDef.onlineRuns onlineRunningOf
  rw [hfind]
  cases hf : (typeEffects u ty).find? (·.id == 16) with
  | none => rfl
  | some oe =>
    show _ = runsEffect it ty oe false
    rw [runsEffect_eq_decideStatus_typeDef u it ty st hst hmodes hdef oe (hid oe (List.mem_of_find?_eq_some hf)),
      Option.bind_some]
    cases toEffectDef? oe <;> rfl

/-- **(a) is `TypeDef.status`** (the decision `C05.status_def` unfolds and `C05.running_eq_spec` is about), for
    every effect of the type whose category has a state; the others do not run. -/
theorem runsEffect_eq_status (hst : it.state = st.toNat)
    (hid : ∀ e ∈ typeEffects u ty, 0 ≤ e.id) (hmodes : ∀ p ∈ it.modes, 0 ≤ p.1)
    (hdef : ∀ d, ty.defaultEffect = some d → 0 ≤ d) (e : Effect) (he : e ∈ typeEffects u ty) :
    runsEffect it ty e (onlineRunningOf it ty ((typeEffects u ty).find? (·.id == 16))) =
      (toEffectDef? e).any ((toTypeDef u ty).status (toModes it) st) := by
  unfold TypeDef.status
  rw [onlineRuns_toTypeDef u it ty st hst hid hmodes hdef]
  exact runsEffect_eq_decideStatus_typeDef u it ty st hst hmodes hdef e (hid e he) _

/-- **The world specification's running ids are `Core.resolve` of the translated item**: the set the C05
    state machine keeps as the item's running set after any history (`C05.running_eq_spec`). -/
theorem runningIds_eq_resolve (cfg : Config) (hty : itemType? u cfg it = some ty) (hst : it.state = st.toNat)
    (hid : ∀ e ∈ typeEffects u ty, 0 ≤ e.id) (hmodes : ∀ p ∈ it.modes, 0 ≤ p.1)
    (hdef : ∀ d, ty.defaultEffect = some d → 0 ≤ d) :
    (runningIds u cfg it).map Int.toNat =
      Core.resolve { typeId := it.typeId.toNat, type := some (toTypeDef u ty), modes := toModes it } st := by
  unfold runningIds
  rw [runningEffects_loaded u cfg it ty hty]
  -- both sides are a `filterMap` over the type's effects; compare them effect by effect
  show (((typeEffects u ty).filter _).map (·.id)).map Int.toNat =
    (((typeEffects u ty).filterMap toEffectDef?).filter _).map (·.id)
  rw [List.map_map, ← List.filterMap_eq_map, List.filterMap_filter, List.filter_filterMap, List.map_filterMap]
  refine filterMap_congr_mem fun e he => ?_
  rw [runsEffect_eq_status u it ty st hst hid hmodes hdef e he]
  cases hed : toEffectDef? e with
  | none => rfl
  | some ed =>
    cases hs : (toTypeDef u ty).status (toModes it) st ed <;> simp [Option.filter, hs, toEffectDef?_id hed]

end status

/-- Outcome digit of the regenerated table's row for key `k` (0 stop, 1 run, 2 KeyError, 3 inconsistent). -/
def tableEntry (k : Key) : Option Nat := (table.find? (· / 10 == k.pack)).map (· % 10)

/-- The regenerated table as a function of the key: a key of the product whose category is documented has a
    row, and the row's outcome is the specification's decision. -/
theorem tableEntry_eq_spec (k : Key) (hk : k ∈ allKeys) (b : Bool) (hs : k.spec = some b) :
    tableEntry k = some (b2n b) := by
  obtain ⟨hl, hz⟩ := C05.table_matches_spec
  obtain ⟨r, h1, h2⟩ := find_zip (· / 10) Key.pack table allKeys hl (fun p hp => (hz p hp).1) C05.packs_nodup k hk
  unfold tableEntry
  rw [h1]
  simp only [Option.map_some]
  exact congrArg some ((hz (r, k) h2).2 b hs)

/-- Run mode digit of the table: 1..4, and 5 for any value that is not an `EffectMode`. -/
def modeKey (m : Nat) : Nat := if 1 ≤ m ∧ m ≤ 4 then m else 5

/-- The table's `online` coordinate: the effect is 'online' itself / the type's 'online' effect with its run
    mode on this item / absent. -/
def onlineOf (it : Item) (e : Effect) (oe? : Option Effect) : Online :=
  if e.id == 16 then .self
  else match oe? with
    | none => .absent
    | some oe => .present (modeKey (modeOf it oe.id))

/-- The table key of "effect `e` of item `it` (state `st`, type `ty`), category `c`, type's 'online' effect `oe?`". -/
def keyOf (st : State) (c : Cat) (it : Item) (ty : ItemType) (e : Effect) (oe? : Option Effect) : Key :=
  ⟨st, modeKey (modeOf it e.id), c, ty.defaultEffect == some e.id, onlineOf it e oe?, e.chanceAttr.isSome, none⟩

theorem modeKey_mem (m : Nat) : modeKey m ∈ modeValues := by
  unfold modeKey modeValues
  split
  · simp only [List.mem_cons, List.not_mem_nil, or_false]; omega
  · simp

theorem ofId_modeKey (m : Nat) : ModeK.ofId (modeKey m) = ModeK.ofId m := by
  unfold modeKey
  split
  · rfl
  · exact (ofId_of_not_mode ‹_›).symm

/-- Outside category online, `onlineRuns` is not looked at. -/
theorem decideStatus_not_online (st : State) (m : ModeK) (es : State) (t : Traits) (o o' : Bool)
    (h : es ≠ .online) : decideStatus st m es t o = decideStatus st m es t o' :=
  decideStatus_congr (by cases es <;> first | rfl | exact absurd rfl h)

theorem keyOf_mem (st : State) (c : Cat) (it : Item) (ty : ItemType) (e : Effect) (oe? : Option Effect)
    (h16 : e.id = 16 → c = .online) : keyOf st c it ty e oe? ∈ allKeys := by
  apply C05.keys_complete
  · exact modeKey_mem _
  · show onlineOf it e oe? ∈ onlineValues
    unfold onlineOf
    split
    · decide
    · cases oe? with
      | none => exact List.mem_cons_self
      | some oe => exact (by decide : ∀ m ∈ modeValues, Online.present m ∈ onlineValues) _ (modeKey_mem _)
  · show onlineOf it e oe? = .self → c = .online
    unfold onlineOf
    split
    · rename_i h; intro _; exact h16 (by simpa using h)
    · cases oe? <;> simp

/-- **(a) = the regenerated table.** For an in-domain case — item state a `State`, effect category `c` with a
    state, effect 16 of category online (as `EffectFactory` makes it) both when it is `e` and when it is the
    type's 'online' effect `oe?` — `runsEffect`, with `onlineRunning` obtained from `oe?` the way
    `runningEffects` does, is the outcome digit of the table row with key `keyOf …`. -/
theorem runsEffect_eq_table (it : Item) (ty : ItemType) (e : Effect) (oe? : Option Effect) (st : State) (c : Cat)
    (hst : it.state = st.toNat) (hc : e.category = c.toNat) (hdoc : c.state?.isSome = true)
    (h16 : e.id = 16 → e.category = 4)
    (hoe : ∀ oe, oe? = some oe → oe.id = 16 ∧ oe.category = 4) :
    tableEntry (keyOf st c it ty e oe?) = some (b2n (runsEffect it ty e (onlineRunningOf it ty oe?))) := by
  have hself : e.id = 16 → c = .online := fun h => C05.cat_toNat_inj (by rw [← hc, h16 h]; rfl)
  apply tableEntry_eq_spec _ (keyOf_mem st c it ty e oe? hself)
  obtain ⟨es, hes⟩ := Option.isSome_iff_exists.1 hdoc
  rw [runsEffect_eq_decideStatus it ty e _ st es hst (catState?_eq_some.1 (by rw [hc, catState?_toNat, hes]))]
  simp only [Key.spec, keyOf, hes, Option.map_some, ofId_modeKey, Key.effState]
  -- the key and the world differ in how they come by `isOnline` and `onlineRuns`: only category online looks
  refine congrArg some (decideStatus_congr ?_)
  cases es <;> try rfl
  show (onlineOf it e oe? == .self || _) = (e.id == 16 || _)
  unfold onlineOf
  cases hb : e.id == 16
  case true => rfl
  cases oe? with
  | none => rfl
  | some oe =>
    obtain ⟨ho1, ho2⟩ := hoe oe rfl
    show (false || decideStatus st (ModeK.ofId (modeKey (modeOf it oe.id))) .online ⟨false, false, true⟩ false) =
      (false || runsEffect it ty oe false)
    rw [runsEffect_eq_decideStatus it ty oe false st .online hst (by rw [ho2]; rfl), ofId_modeKey]
    exact congrArg _ (decideStatus_congr (by simp [fullExtra, traitsOf, ho1]))

/-- **The world specification's running sets inherit the regenerated tie**: for a loaded item in a valid state
    whose type's effect 16 (if any) has category online, an effect of the type whose category `c` has a state
    is in `runningEffects` iff the regenerated table's row for its key says "run". -/
theorem mem_runningEffects_iff_table (u : Universe) (cfg : Config) (it : Item) (ty : ItemType) (st : State)
    (hty : itemType? u cfg it = some ty) (hst : it.state = st.toNat)
    (h16 : ∀ e ∈ typeEffects u ty, e.id = 16 → e.category = 4)
    (e : Effect) (he : e ∈ typeEffects u ty) (c : Cat) (hc : e.category = c.toNat)
    (hdoc : c.state?.isSome = true) :
    e ∈ runningEffects u cfg it ↔
      tableEntry (keyOf st c it ty e ((typeEffects u ty).find? (·.id == 16))) = some 1 := by
  have hoe : ∀ oe, (typeEffects u ty).find? (·.id == 16) = some oe → oe.id = 16 ∧ oe.category = 4 := by
    intro oe h
    have h1 : oe.id = 16 := by simpa using List.find?_some h
    exact ⟨h1, h16 oe (List.mem_of_find?_eq_some h) h1⟩
  rw [runsEffect_eq_table it ty e _ st c hst hc hdoc (h16 e he) hoe]
  have hmem : e ∈ runningEffects u cfg it ↔
      runsEffect it ty e (onlineRunningOf it ty ((typeEffects u ty).find? (·.id == 16))) = true := by
    rw [runningEffects_loaded u cfg it ty hty, List.mem_filter]
    exact ⟨fun h => h.2, fun h => ⟨he, h⟩⟩
  rw [hmem]
  cases runsEffect it ty e (onlineRunningOf it ty ((typeEffects u ty).find? (·.id == 16))) <;> simp [b2n]

/-- Effects: 16 'online' (category online), 20 active default, 21 active non-default, 22 overload,
    23 passive, 24 online-category, 25 passive with a chance attribute; one module type carrying them. -/
def demoU : Universe :=
  { effects := [⟨16, 4, none, none, false, []⟩, ⟨20, 1, none, none, false, []⟩, ⟨21, 1, none, none, false, []⟩,
                ⟨22, 5, none, none, false, []⟩, ⟨23, 0, none, none, false, []⟩, ⟨24, 4, none, none, false, []⟩,
                ⟨25, 0, some 1000, none, false, []⟩],
    types := [⟨1, none, none, some 20, [], [16, 20, 21, 22, 23, 24, 25], []⟩] }

def demoTy : ItemType := ⟨1, none, none, some 20, [], [16, 20, 21, 22, 23, 24, 25], []⟩
def demoMod (state : Nat) (modes : List (Int × Nat)) : Item :=
  ⟨1, .moduleHigh, 1, 1, state, none, none, none, modes⟩
def demoCfg (state : Nat) (modes : List (Int × Nat)) : Config :=
  { hasSource := true, fits := [⟨1, none, none, none⟩], items := [demoMod state modes] }
def eOnline : Effect := ⟨16, 4, none, none, false, []⟩
def eDefault : Effect := ⟨20, 1, none, none, false, []⟩
def eOnlineCat : Effect := ⟨24, 4, none, none, false, []⟩

/-- A module with an active default effect at state active: runs — on both sides, and in the table. -/
example : runsEffect (demoMod 3 []) demoTy eDefault false = true := by decide
example : decideStatus .active (ModeK.ofId (modeOf (demoMod 3 []) 20)) .active (traitsOf demoTy eDefault) false = true := by
  decide
example : tableEntry ⟨.active, 1, .active, true, .present 1, false, none⟩ = some 1 :=
  runsEffect_eq_table (demoMod 3 []) demoTy eDefault (some eOnline) .active .active rfl rfl rfl (by decide)
    (by intro oe h; cases h; exact ⟨rfl, rfl⟩)
/-- The same at state online: does not. -/
example : runsEffect (demoMod 2 []) demoTy eDefault true = false := by decide
example : decideStatus .online (ModeK.ofId (modeOf (demoMod 2 []) 20)) .active (traitsOf demoTy eDefault) true = false := by
  decide
example : tableEntry ⟨.online, 1, .active, true, .present 1, false, none⟩ = some 0 :=
  runsEffect_eq_table (demoMod 2 []) demoTy eDefault (some eOnline) .online .active rfl rfl rfl (by decide)
    (by intro oe h; cases h; exact ⟨rfl, rfl⟩)
/-- An online-category effect with the 'online' effect stopped by mode (force_stop on 16): does not run,
    although the item is active; with 'online' in its default mode it does. -/
example : onlineRunningOf (demoMod 3 [(16, 4)]) demoTy (some eOnline) = false := by decide
example : runsEffect (demoMod 3 [(16, 4)]) demoTy eOnlineCat
    (onlineRunningOf (demoMod 3 [(16, 4)]) demoTy (some eOnline)) = false := by decide
example : tableEntry ⟨.active, 1, .online, false, .present 4, false, none⟩ = some 0 :=
  runsEffect_eq_table (demoMod 3 [(16, 4)]) demoTy eOnlineCat (some eOnline) .active .online rfl rfl rfl (by decide)
    (by intro oe h; cases h; exact ⟨rfl, rfl⟩)
example : runsEffect (demoMod 3 []) demoTy eOnlineCat (onlineRunningOf (demoMod 3 []) demoTy (some eOnline)) = true := by
  decide
/-- Running sets of the loaded module: active; online; active with 'online' force-stopped (no online-category
    effect left, the state-compliant 21 runs); overload; unknown run mode on the default effect. -/
example : runningIds demoU (demoCfg 3 []) (demoMod 3 []) = [16, 20, 23, 24] := by decide +kernel
example : runningIds demoU (demoCfg 2 []) (demoMod 2 []) = [16, 23, 24] := by decide +kernel
example : runningIds demoU (demoCfg 3 [(16, 4), (21, 2)]) (demoMod 3 [(16, 4), (21, 2)]) = [20, 21, 23] := by decide +kernel
example : runningIds demoU (demoCfg 4 [(25, 2)]) (demoMod 4 [(25, 2)]) = [16, 20, 22, 23, 24, 25] := by decide +kernel
example : runningIds demoU (demoCfg 3 [(20, 7)]) (demoMod 3 [(20, 7)]) = [16, 23, 24] := by decide +kernel
/-- The hypotheses of `mem_runningEffects_iff_table` hold on the demo (so the table decides its running set). -/
example : itemType? demoU (demoCfg 3 []) (demoMod 3 []) = some demoTy := rfl
example : ∀ e ∈ typeEffects demoU demoTy, e.id = 16 → e.category = 4 := by decide +kernel
/-- The state-machine vocabulary on the demo: the translated type, and `Core.resolve` of the translated item. -/
example : ((toTypeDef demoU demoTy).effects.map fun e => (e.id, e.estate, e.hasChance)) =
    [(16, .online, false), (20, .active, false), (21, .active, false), (22, .overload, false),
     (23, .offline, false), (24, .online, false), (25, .offline, true)] := by decide +kernel
example : Core.resolve { typeId := 1, type := some (toTypeDef demoU demoTy), modes := toModes (demoMod 3 [(16, 4), (21, 2)]) }
    .active = [20, 21, 23] := by decide +kernel
/-- Outside the property: an area-category effect is never run by (a), not even in force_run (where the table says it runs). -/
example : runsEffect (demoMod 4 [(30, 3)]) demoTy ⟨30, 3, none, none, false, []⟩ true = false := by decide

end Eos.C05World
