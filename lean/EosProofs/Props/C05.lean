import EosModel.EffectStatus
import EosGen.EffectStatusTable
import EosProofs.Lemmas.C05
import EosProofs.Lemmas.C05Keys
import EosProofs.Lemmas.C05Table
/-! # C05 — which effects run is a fixed function of state, run mode and effect category

`EosGen.EffectStatusTable` is regenerated on every run by executing
`EffectStatusResolver.resolve_effects_status` over the product `allKeys` of its abstracted inputs, so the table
theorems are about what the code decides; they are what ties `decideStatus` to the code. The history theorems
are about the state machine of `EosModel/EffectStatus.lean`, whose every re-resolution uses `decideStatus`:
they say that its bookkeeping (start/stop diffs on every change) keeps the recorded running set equal to a
fresh resolution, not that the decision is right. -/
namespace Eos.C05
open Eos.EffectStatus
open EosGen.EffectStatusTable (table parts)

/-- force_run: "always running no matter what"; force_stop: "never running no matter what". -/
theorem force_modes (st es : State) (t : Traits) (o : Bool) :
    decideStatus st .forceRun es t o = true ∧ decideStatus st .forceStop es t o = false := ⟨rfl, rfl⟩

/-- state_compliance: running exactly when the item's state is at least the effect category's state. -/
theorem state_compliance_iff (st es : State) (t : Traits) (o : Bool) :
    decideStatus st .stateC es t o = true ↔ es.toNat ≤ st.toNat := by
  simp [decideStatus, State.le]

/-- full_compliance: high enough state, and per category: offline — no fitting usage chance; online — the
    'online' effect itself or a running 'online' effect; active — the default effect; overload — nothing more. -/
theorem full_compliance_iff (st es : State) (t : Traits) (o : Bool) :
    decideStatus st .full es t o = true ↔
      es.toNat ≤ st.toNat ∧ (es = .offline → t.hasChance = false) ∧
      (es = .online → t.isOnline = true ∨ o = true) ∧ (es = .active → t.isDefault = true) := by
  cases es <;> simp [decideStatus, State.le, fullExtra]

theorem enum_values :
    EosGen.EffectStatusTable.stateValues = State.all.map (fun s => (s.name, s.toNat)) ∧
    EosGen.EffectStatusTable.modeValues = modeNames ∧
    EosGen.EffectStatusTable.categoryValues = Cat.all.map (fun c => (c.name, c.toNat)) := by decide +kernel

/-- `Effect.__effect_state_map` is the documented category -> state map (area and dungeon have none). -/
theorem category_state_map :
    EosGen.EffectStatusTable.categoryState =
      Cat.all.filterMap (fun c => c.state?.map fun s => (c.toNat, s.toNat)) := by decide

theorem constants :
    EosGen.EffectStatusTable.defaultEffectMode = defaultMode ∧ EosGen.EffectStatusTable.onlineEffectId = onlineId ∧
    EosGen.EffectStatusTable.sideEffectState = State.offline.toNat ∧
    EosGen.EffectStatusTable.abilityEffectState = State.active.toNat := by decide

/-- `parts` and `keyParts` unfold to the lists `tableOk_sound` speaks of. -/
theorem parts_ok : partsOk parts keyParts = true := by apply tableOk_sound table_ok

/-- The keys of the product `allKeys` are pairwise different (each records the coordinates it was built from). -/
theorem keys_nodup : allKeys.Nodup := allKeys_nodup

/-- Every combination of item state x run mode (1..5) x category x default x online (absent, present with
    mode 1..5, the effect itself — possible in category online only) x chance x override is a key of the
    product: together with `keys_nodup` and `table_total`, every combination has exactly one row in the table. -/
theorem keys_complete (k : Key) (hm : k.mode ∈ modeValues) (ho : k.online ∈ onlineValues)
    (hs : k.online = .self → k.cat = .online) : k ∈ allKeys := mem_allKeys.2 ⟨hm, ho, hs⟩

/-- Row by row, the table's key is the product's key, and its outcome is the specified decision wherever the
    effect category is documented. On the rows of categories area and dungeon (no documented state, `Key.spec =
    none`) only the key is compared; there the regenerated outcome is KeyError in the two compliance modes,
    "runs" under force_run and "does not run" otherwise. -/
theorem table_matches_spec :
    table.length = allKeys.length ∧
    ∀ p ∈ table.zip allKeys, p.1 / 10 = p.2.pack ∧ ∀ b, p.2.spec = some b → p.1 % 10 = b2n b := by
  obtain ⟨hl, hz⟩ := partsOk_spec _ _ parts_ok
  refine ⟨by simpa [table, allKeys] using hl, ?_⟩
  intro p hp
  have := hz p (by simpa [table, allKeys] using hp)
  simp only [rowOk, Bool.and_eq_true, beq_iff_eq] at this
  refine ⟨this.1, ?_⟩
  intro b hb
  simpa [hb] using this.2

/-- The regenerated table has exactly one row per key of the product, in the product's order. -/
theorem table_total : table.map (· / 10) = allKeys.map Key.pack :=
  map_eq_map_of_zip table_matches_spec.1 fun p hp => (table_matches_spec.2 p hp).1

/-- What `status` in the theorems below abbreviates: the documented decision applied to the effect's run
    mode on this item (default `full_compliance`), its category's state, whether it is the type's default
    effect / chance-based / the 'online' effect, and whether the item's 'online' effect runs (itself decided
    the same way, for the same state). -/
theorem status_def (t : TypeDef) (modes : List (Nat × Nat)) (st : State) (e : EffectDef) :
    t.status modes st e =
      decideStatus st (ModeK.ofId (getMode modes e.id)) e.estate
        ⟨t.defaultEffect == some e.id, e.hasChance, e.id == onlineId⟩
        (match t.effects.find? (·.id == onlineId) with
         | none => false
         | some on => decideStatus st (ModeK.ofId (getMode modes on.id)) on.estate
             ⟨t.defaultEffect == some on.id, on.hasChance, on.id == onlineId⟩ false) := rfl

/-- After ANY sequence of operations (creating items, adding/removing them, state and run-mode changes,
    charges, source switches, taking the fit out of the solar system, side-effect and ability switches) on a
    world that starts without items, for every item: the recorded running set is what a fresh resolution
    (`Core.resolve`, i.e. the type's effects filtered by `status`) gives for the item's current type, state and
    run modes — nothing when it is not loaded —, and no effect id is recorded twice. Incremental bookkeeping =
    resolution from scratch; that `status` is the code's decision is `table_matches_spec`' part. -/
theorem running_eq_spec (w : World) (hw : w.WF) (h0 : w.items = []) (ops : List Op) :
    ∀ h ∈ (w.run ops).items,
      (∀ e, e ∈ h.core.running ↔
        ∃ t, h.core.type = some t ∧ ∃ ed ∈ t.effects, ed.id = e ∧ t.status h.core.modes h.state ed = true) ∧
      h.core.running.Nodup :=
  fun h hh => good_spec (run_ok_empty w hw h0 ops h hh).2.1

/-- Charges follow their container: the charge's running set is the decision for the CONTAINER's state. -/
theorem charge_follows_container (w : World) (hw : w.WF) (h0 : w.items = []) (ops : List Op) :
    ∀ h ∈ (w.run ops).items, ∀ c, h.charge = some c →
      (∀ e, e ∈ c.running ↔
        ∃ t, c.type = some t ∧ ∃ ed ∈ t.effects, ed.id = e ∧ t.status c.modes h.state ed = true) ∧
      c.running.Nodup :=
  fun h hh c hc => good_spec ((run_ok_empty w hw h0 ops h hh).2.2 c hc).2

/-- Items (and charges) are loaded exactly when they are on the fit, the fit is in the solar system, the
    solar system has a source and that source serves their type ... -/
theorem loaded_iff_reachable (w : World) (hw : w.WF) (h0 : w.items = []) (ops : List Op) :
    ∀ h ∈ (w.run ops).items,
      (h.core.type = if h.onFit then Source.type? (w.run ops).src h.core.typeId else none) ∧
      ∀ c, h.charge = some c → c.type = if h.onFit then Source.type? (w.run ops).src c.typeId else none := by
  intro h hh
  have hi := run_ok_empty w hw h0 ops h hh
  exact ⟨hi.1, fun c hc => (hi.2.2 c hc).1⟩

/-- ... and unloaded items run nothing; in particular items outside a sourced solar system run nothing. -/
theorem unloaded_runs_nothing (w : World) (hw : w.WF) (h0 : w.items = []) (ops : List Op) :
    ∀ h ∈ (w.run ops).items,
      (h.core.type = none → h.core.running = []) ∧ (∀ c, h.charge = some c → c.type = none → c.running = []) ∧
      ((h.onFit = false ∨ (w.run ops).attached = false ∨ (w.run ops).source = none) →
        h.core.running = [] ∧ ∀ c, h.charge = some c → c.running = []) := by
  intro h hh
  obtain ⟨ht, hg, hc⟩ := run_ok_empty w hw h0 ops h hh
  refine ⟨good_running_nil hg, fun c hcc => good_running_nil (hc c hcc).2, ?_⟩
  intro hout
  have hsrc : (if h.onFit then Source.type? (w.run ops).src h.core.typeId else none) = none ∧
      ∀ tid, (if h.onFit then Source.type? (w.run ops).src tid else none) = none := by
    rcases hout with ho | ha | hs
    · simp [ho]
    · simp [World.src, ha, Source.type?]
    · simp [World.src, hs, Source.type?]
  refine ⟨good_running_nil hg (ht.trans hsrc.1), fun c hcc => ?_⟩
  exact good_running_nil (hc c hcc).2 ((hc c hcc).1.trans (hsrc.2 _))

/-- Re-resolution (`get_effects_status_update_msgs`): the started ids are exactly decision minus running,
    the stopped ids exactly running minus decision (so nothing is started twice or stopped without
    running), the new running set is the decision, and exactly these two notifications are published. -/
theorem update_diff_exact (c : Core) (st : State) :
    (∀ e, e ∈ c.startIds st ↔ e ∈ c.resolve st ∧ e ∉ c.running) ∧
    (∀ e, e ∈ c.stopIds st ↔ e ∈ c.running ∧ e ∉ c.resolve st) ∧
    (∀ e, e ∈ (c.update st).running ↔ e ∈ c.resolve st) ∧
    (c.update st).log = c.log ++ (if (c.startIds st).isEmpty then [] else [.started (c.startIds st)]) ++
      (if (c.stopIds st).isEmpty then [] else [.stopped (c.stopIds st)]) :=
  ⟨mem_startIds c st, mem_stopIds c st, mem_update_running c st, rfl⟩

/-- Unloading stops exactly what was running and leaves nothing running. -/
theorem unload_stops_running (c : Core) (t : TypeDef) (ht : c.type = some t) :
    c.unload.running = [] ∧ c.unload.type = none ∧
    c.unload.log = c.log ++ (if c.running.isEmpty then [] else [.stopped c.running]) := by
  simp [Core.unload, ht]

/-- `set_side_effect_status e on` on a booster that has side effect `e`: afterwards the booster reports
    exactly `on` for it, the side effect runs iff `on`, and the set of side effects is unchanged. -/
theorem side_effect_roundtrip {src : Option Source} (hs : SrcWF src) (amap : List (Nat × Nat)) (h h' : Holder)
    (hk : Holder.Ok src h) (e : Nat) (on : Bool) (he : h.apply src amap (.setSide e on) = .ok h') :
    h'.core.sideEffects = h.core.sideEffects ∧ h'.core.sideStatus e = on ∧ (e ∈ h'.core.running ↔ on = true) := by
  obtain ⟨hany, rfl⟩ := apply_setSide he
  obtain ⟨⟨e', ch⟩, hmem, heq⟩ := List.any_eq_true.1 hany
  obtain rfl : e' = e := by simpa using heq
  obtain ⟨t, ht, ed, hed, hoff, hch, rfl⟩ := mem_sideEffects.1 hmem
  obtain ⟨hwf, f1, f2, hrun⟩ := setModes_loaded hs hk ht hed [(ed.id, Core.sideMode on)]
  have hst : ∀ st, t.status (setModes h.core.modes [(ed.id, Core.sideMode on)]) st ed = on := fun st =>
    side_status_of_mode t _ st ed hoff (hwf.2 ed hed (by simp [hch])) on
      (by rw [getMode_setModes _ _ _ (by simp)]; simp)
  exact ⟨by simp [Core.sideEffects, Core.effects, f1, ht], by rw [sideStatus_eq f1 hwf hed, f2, hst],
    by rw [hrun, hst]⟩

/-- `randomize_side_effects` with ANY sequence of `random()` draws: the i-th side effect (chance `ch`)
    is reported enabled, and runs, exactly when the i-th draw is below `ch`. -/
theorem randomize_spec {src : Option Source} (hs : SrcWF src) (amap : List (Nat × Nat)) (h h' : Holder)
    (hk : Holder.Ok src h) (draws : List Rat) (he : h.apply src amap (.randomize draws) = .ok h')
    (i e : Nat) (ch : Rat) (hi : h.core.sideEffects[i]? = some (e, ch)) :
    h'.core.sideStatus e = decide (drawsFn draws i < ch) ∧ (e ∈ h'.core.running ↔ drawsFn draws i < ch) := by
  obtain rfl := apply_randomize he
  obtain ⟨t, ht, ed, hed, hoff, hch, rfl⟩ := mem_sideEffects.1 (List.mem_of_getElem? hi)
  obtain ⟨hwf, f1, f2, hrun⟩ := setModes_loaded hs hk ht hed (h.core.randomModes (drawsFn draws))
  have hnd := sideEffects_nodup (c := h.core) (core_wf hs hk.1)
  have hst : ∀ st, t.status (setModes h.core.modes (h.core.randomModes (drawsFn draws))) st ed =
      decide (drawsFn draws i < ch) := fun st =>
    side_status_of_mode t _ st ed hoff (hwf.2 ed hed (by simp [hch])) _ (by
      rw [getMode_setModes _ _ _ (by rwa [randomModes_keys]), find_randomModes hnd _ hi])
  exact ⟨by rw [sideStatus_eq f1 hwf hed, f2, hst], by rw [hrun, hst]; simp⟩

/-- `set_ability_status a on` on a fighter squad whose ability `a` is listed (its effect `e` is on the
    type and of an active-state category): afterwards the squad reports exactly `on` for it, and the
    ability's effect runs iff `on` and the squad is in active+ state. -/
theorem ability_roundtrip {src : Option Source} (hs : SrcWF src) (amap : List (Nat × Nat)) (h h' : Holder)
    (hk : Holder.Ok src h) (a e : Nat) (on : Bool) (he : h.apply src amap (.setAbility a on) = .ok h')
    (hae : Core.abilityEffect amap a = some e) (hlisted : (h.core.abilityStatus e).isSome) :
    h'.core.abilityStatus e = some on ∧ (e ∈ h'.core.running ↔ on = true ∧ State.active.le h.state = true) := by
  obtain ⟨t, e', ht, hae', rfl⟩ := apply_setAbility he
  obtain rfl : e' = e := Option.some.inj (hae'.symm.trans hae)
  simp only [Core.abilityStatus, ht] at hlisted
  cases hf : t.effects.find? (·.id == e') with
  | none => simp [hf] at hlisted
  | some ed =>
    have hed : ed ∈ t.effects := List.mem_of_find?_eq_some hf
    obtain rfl : ed.id = e' := by simpa using List.find?_some hf
    have hact : ed.estate = .active := by
      by_cases hh : ed.estate = .active
      · exact hh
      · simp [hf, hh] at hlisted
    obtain ⟨hwf, f1, f2, hrun⟩ := setModes_loaded hs hk ht hed
      [(ed.id, Core.abilityMode (t.defaultEffect == some ed.id) on)]
    have hst := fun st => ability_status_of_mode t
      (setModes h.core.modes [(ed.id, Core.abilityMode (t.defaultEffect == some ed.id) on)]) st ed hact on
      (by rw [getMode_setModes _ _ _ (by simp)]; simp)
    exact ⟨by rw [abilityStatus_eq f1 hwf hed hact, f2, hst]; cases on <;> rfl, by rw [hrun, hst]; simp⟩

/-- One source serving a module type (online effect 16, a default active effect 20, a non-default active
    effect 21, an overload effect 22, a passive effect 23) and a booster type (side effects 30 and 31). -/
def demoWorld : World :=
  { sources := [[(1, ⟨[⟨16, .online, false, none⟩, ⟨20, .active, false, none⟩, ⟨21, .active, false, none⟩,
                       ⟨22, .overload, false, none⟩, ⟨23, .offline, false, none⟩], some 20, []⟩),
                 (2, ⟨[⟨30, .offline, true, some (1 / 2)⟩, ⟨31, .offline, true, some (1 / 4)⟩], none, []⟩)]],
    abilityMap := [] }

example : demoWorld.WF := by unfold World.WF TypeDef.WF; decide +kernel

/-- Loaded active module runs its passive, online and default active effects; forcing the 'online' effect to
    stop and putting the non-default 21 into state compliance swaps them; unloading (source := none) runs nothing. -/
example : ((demoWorld.run [.new 1 .moduleHigh 1 .active, .item 1 .add, .setSource (some 0)]).items.map
    (·.core.running)) = [[16, 20, 23]] := by decide +kernel
example : ((demoWorld.run [.new 1 .moduleHigh 1 .active, .item 1 .add, .setSource (some 0),
    .item 1 (.setModes false [(16, 4), (21, 2)])]).items.map (·.core.running)) = [[20, 23, 21]] := by decide +kernel
example : ((demoWorld.run [.new 1 .moduleHigh 1 .overload, .item 1 .add, .setSource (some 0),
    .setSource none]).items.map (·.core.running)) = [[]] := by decide +kernel
/-- A side effect switched on runs; randomising with draws 0.3, 0.3 enables 30 (chance 0.5) and not 31 (0.25). -/
example : ((demoWorld.run [.setSource (some 0), .new 2 .booster 2 .offline, .item 2 .add,
    .item 2 (.randomize [3 / 10, 3 / 10])]).items.map fun h =>
      (h.core.running, h.core.sideStatus 30, h.core.sideStatus 31)) = [([30], true, false)] := by decide +kernel
/-- A charge follows its module: its active default effect 40 starts when the MODULE goes active. -/
example : ((({ demoWorld with sources := [[(1, ⟨[], none, []⟩), (3, ⟨[⟨40, .active, false, none⟩], some 40, []⟩)]] } : World).run
    [.setSource (some 0), .new 1 .moduleMid 1 .online, .item 1 .add, .item 1 (.setCharge (some (3, []))),
     .item 1 (.setState .active)]).items.map fun h => (h.charge.map (·.running), h.charge.map (·.log.length))) =
    [(some [40], some 1)] := by decide +kernel
/-- A listed ability switched off and on again (fighter in active state; effect 6465 is the default effect). -/
example : (({ sources := [[(4, ⟨[⟨6465, .active, false, none⟩], some 6465, [26]⟩)]], abilityMap := [(26, 6465)] } : World).run
    [.setSource (some 0), .new 1 .fighter 4 .active, .item 1 .add, .item 1 (.setAbility 26 false)]).items.map
    (fun h => (h.core.running, h.core.abilityStatus 6465)) = [([], some false)] := by decide +kernel
example : (⟨.active, 1, .active, true, .absent, false, none⟩ : Key).spec = some true := by decide
example : (⟨.active, 1, .area, true, .absent, false, none⟩ : Key).spec = none := by decide

end Eos.C05
