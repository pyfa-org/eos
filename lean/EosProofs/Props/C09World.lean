import EosProofs.Props.C01World
import EosProofs.Lemmas.MicroRuns
/-! # C09, message level — reading values is pure

`Props/C09.lean` states the property for the abstract cache machine, where the removal set of every mutation is part
of the step and the legality of the read-free history is a *hypothesis* (`reads_do_not_affect_future`).  At message
level the removal set of a message is computed by the handler from the cache it finds (`Micro.visitAll` only cascades
through *cached* nodes), so a history with fewer reads removes other entries, and the side conditions of some events
mention the cache.

What a read is here.  The read event of a history stores the from-scratch value `spec` for the nodes of its set `S`
*by definition* (`wstep`, `Lemmas/MicroLegal.lean`), and `observe` is the cached value, else `spec`.  That the
executable read `readNode` returns and stores these values is `C01World.driver_read_value`; that a read publishes no
message is built into the model.  The theorems of this file say that in this model the cache is transparent.

Direction of the side conditions.  Reads never change `cfg` / `dyn`, and what a message does to them depends on them
only.  Of the side conditions that mention the cache, `StepOK (.load i)`, `StepOK (.reconfig cfg')` and `RelevelOK` are
**antitone** in the set of cached nodes, `Legal (.read S)` is **monotone**.  A read can only add entries, but "the
cache of the history with fewer reads stays the smaller one" is **not** available step by step: `Micro.rdeps`
over-approximates the reverse dependencies (its enumerator (4) walks all recorded targets of a projector, see its
docstring in `EosModel/WorldMicro.lean`), so a cascade that passes through an entry only the longer history has cached
can remove an entry both have — the contract of the cascade does not exclude it.  Erasing *all* reads avoids the issue: a
read-free history from an empty cache never has anything cached (`wrun_forget_eraseReads`), the antitone conditions hold
vacuously and no read is left whose legality could fail.  Erasing only *some* of the reads is not covered (a later
read may rely on what an erased one stored); for two given legal histories with the same messages
`reads_reorder_world` applies. -/
namespace Eos.C09World
open Eos.World Eos.Micro Eos.Micro.L Eos.DepCache Eos.Machine Eos.C01World

variable {u : Universe} {immune limited : List Int} {pen : Nat → Rat}

/-- `WStep.read` only: the message `MStep.read` inside a `.micro` event is a no-op of `mstep`, not a read event. -/
def isRead : WStep → Bool
  | .read _ => true
  | _ => false

def eraseReads (l : List WStep) : List WStep := l.filter fun st => !isRead st

theorem eraseReads_nil : eraseReads [] = [] := rfl
theorem eraseReads_read (S : Node → Bool) (l : List WStep) : eraseReads (.read S :: l) = eraseReads l := rfl
theorem eraseReads_micro (st : MStep) (l : List WStep) :
    eraseReads (.micro st :: l) = .micro st :: eraseReads l := rfl
theorem eraseReads_relevel (cfg' : Config) (i : Nat) (a : Int) (l : List WStep) :
    eraseReads (.relevel cfg' i a :: l) = .relevel cfg' i a :: eraseReads l := rfl

theorem eraseReads_append (l1 l2 : List WStep) : eraseReads (l1 ++ l2) = eraseReads l1 ++ eraseReads l2 :=
  List.filter_append ..

theorem eraseReads_idem (l : List WStep) : eraseReads (eraseReads l) = eraseReads l :=
  List.filter_filter .. |>.trans (by simp [eraseReads])

theorem eraseReads_reads {l : List WStep} (h : ∀ st ∈ l, isRead st = true) : eraseReads l = [] :=
  List.filter_eq_nil_iff.2 fun st hst => by simp [h st hst]

theorem wstep_read_regs (W : Config × Dyn → Graph Node Rat) (s : MState) (S : Node → Bool) :
    (wstep u W s (.read S)).cfg = s.cfg ∧ (wstep u W s (.read S)).dyn = s.dyn := ⟨rfl, rfl⟩

theorem readLegal_mono (W : Config × Dyn → Graph Node Rat) {s s' : MState} (hc : s'.cfg = s.cfg)
    (hd : s'.dyn = s.dyn) (hsub : ∀ n, s'.cache n ≠ none → s.cache n ≠ none) {S : Node → Bool}
    (ok : Legal W (toState s') (.read S)) : Legal W (toState s) (.read S) := by
  obtain ⟨c, d, K⟩ := s
  obtain ⟨c', d', K'⟩ := s'
  cases hc; cases hd
  intro n hn m hm hs
  rcases ok n hn m hm hs with h | h
  · exact Or.inl h
  · exact Or.inr (hsub m h)

/-- Reads only touch the cache, and nothing else sees it: without the reads, from nothing cached, the same registers
are reached with nothing cached. -/
theorem wrun_forget_eraseReads (W : Config × Dyn → Graph Node Rat) : ∀ (steps : List WStep) (s : MState),
    wrun u W (forget s) (eraseReads steps) = forget (wrun u W s steps)
  | [], _ => rfl
  | st :: rest, s => by
    cases st with
    | read S => exact wrun_forget_eraseReads W rest (wstep u W s (.read S))
    | _ =>
      exact (congrArg (wrun u W · _) (wstep_forget W s fun _ h => by cases h)).trans
        (wrun_forget_eraseReads W rest _)

theorem wrunOKE_forget_eraseReads (W : Config × Dyn → Graph Node Rat) : ∀ (steps : List WStep) (s : MState),
    WRunOKE u immune limited pen W s steps → WRunOKE u immune limited pen W (forget s) (eraseReads steps)
  | [], _, _ => trivial
  | st :: rest, s, ok => by
    cases st with
    | read S => exact wrunOKE_forget_eraseReads W rest (wstep u W s (.read S)) ok.2
    | _ =>
      exact ⟨wstepOKE_forget W (fun _ h => by cases h) ok.1,
        (congrArg (WRunOKE u immune limited pen W · _) (wstep_forget W s fun _ h => by cases h)).mpr
          (wrunOKE_forget_eraseReads W rest _ ok.2)⟩

theorem wrun_regs_eraseReads (W : Config × Dyn → Graph Node Rat) : ∀ (steps : List WStep) (s s' : MState),
    s'.cfg = s.cfg → s'.dyn = s.dyn →
    (wrun u W s' (eraseReads steps)).cfg = (wrun u W s steps).cfg ∧
    (wrun u W s' (eraseReads steps)).dyn = (wrun u W s steps).dyn := by
  intro steps s s' hc hd
  have h := wrun_forget_eraseReads (u := u) W (eraseReads steps) s'
  have hs : forget s' = forget s := by unfold forget; rw [hc, hd]
  rw [eraseReads_idem, hs, wrun_forget_eraseReads] at h
  exact ⟨(congrArg MState.cfg h.symm :), (congrArg MState.dyn h.symm :)⟩

variable {W : Config × Dyn → Graph Node Rat}

/-- Coherence alone: every cached value is the from-scratch value of the current registers — half of `Machine.Good`.
It is all the theorems on single reads need, and a read of a set that is *not* dependency-closed keeps it; such a read
loses the other half (closedness), so after it the next cascade may leave stale entries: the history theorems
(`reads_erasable_world`, `reads_reorder_world`) therefore ask for legal reads. -/
def Coherent (W : Config × Dyn → Graph Node Rat) (s : MState) : Prop :=
  ∀ n v, s.cache n = some v → spec (W (s.cfg, s.dyn)) n = some v

theorem coherent_of_inv {s : MState} (inv : MInv W s) : Coherent W s := inv.good.coh

theorem observe_of_coherent {s : MState} (h : Coherent W s) (n : Node) :
    observe W (toState s) n = spec (W (s.cfg, s.dyn)) n :=
  observe_of_coh W (toState s) h n

theorem coherent_read {s : MState} (h : Coherent W s) (S : Node → Bool) : Coherent W (wstep u W s (.read S)) := by
  intro n v hv
  rw [wstep_read_cache] at hv
  show spec (W (s.cfg, s.dyn)) n = some v
  by_cases hs : S n = true
  · rwa [if_pos hs] at hv
  · rw [if_neg hs] at hv; exact h n v hv

/-- **A read changes nothing a later read returns.**  (The read event stores `spec` by definition, see the head of
the file; the content is that a coherent cache stays observationally the same.)  In any coherent state — every state
a legal history reaches (`MInv`) — performing a read of any set `S` of nodes and then observing a node gives what
observing it directly gives; configuration and registers are untouched; and the value the read stores for a node it
covers is exactly what `observe` reported for that node before the read (so a repeated read stores the same again). -/
theorem read_stable_world {s : MState} (h : Coherent W s) (S : Node → Bool) :
    (wstep u W s (.read S)).cfg = s.cfg ∧ (wstep u W s (.read S)).dyn = s.dyn ∧
    (∀ n, observe W (toState (wstep u W s (.read S))) n = observe W (toState s) n) ∧
    (∀ n, S n = true → (wstep u W s (.read S)).cache n = observe W (toState s) n) ∧
    (∀ n, S n = false → (wstep u W s (.read S)).cache n = s.cache n) := by
  refine ⟨rfl, rfl, fun n => ?_, fun n hs => ?_, fun n hs => ?_⟩
  · rw [observe_of_coherent (coherent_read (u := u) h S), observe_of_coherent h]; rfl
  · rw [observe_of_coherent h, wstep_read_cache, if_pos hs]
  · rw [wstep_read_cache, if_neg (by simp [hs])]

theorem read_stable_world_inv {s : MState} (inv : MInv W s) (S : Node → Bool) (n : Node) :
    observe W (toState (wstep u W s (.read S))) n = observe W (toState s) n :=
  (read_stable_world (coherent_of_inv inv) S).2.2.1 n

/-- **Between two mutations any ordering, interleaving or repetition of reads yields the same values.**  A list
of reads (`hr`; whatever the sets, their order and their number; no legality needed) from a coherent state leaves
configuration, registers and every observation as they were, and the state is coherent again. -/
theorem reads_stable_world : ∀ (reads : List WStep) {s : MState}, (∀ st ∈ reads, isRead st = true) → Coherent W s →
    (wrun u W s reads).cfg = s.cfg ∧ (wrun u W s reads).dyn = s.dyn ∧ Coherent W (wrun u W s reads) ∧
    ∀ n, observe W (toState (wrun u W s reads)) n = observe W (toState s) n
  | [], _, _, h => ⟨rfl, rfl, h, fun _ => rfl⟩
  | .read S :: rest, s, hr, h => by
    obtain ⟨h1, h2, h3, h4⟩ := reads_stable_world rest (s := wstep u W s (.read S))
      (fun st hst => hr st (List.mem_cons_of_mem _ hst)) (coherent_read h S)
    exact ⟨h1, h2, h3, fun n => (h4 n).trans ((read_stable_world h S).2.2.1 n)⟩
  | .micro st :: _, _, hr, _ => by cases hr _ List.mem_cons_self
  | .relevel cfg' i a :: _, _, hr, _ => by cases hr _ List.mem_cons_self

/-- Two lists of reads — e.g. the same reads in another order, or with repetitions — are indistinguishable. -/
theorem read_commute_world {s : MState} (h : Coherent W s) (reads reads' : List WStep)
    (hr : ∀ st ∈ reads, isRead st = true) (hr' : ∀ st ∈ reads', isRead st = true) (n : Node) :
    observe W (toState (wrun u W s reads)) n = observe W (toState (wrun u W s reads')) n :=
  ((reads_stable_world (u := u) reads hr h).2.2.2 n).trans ((reads_stable_world (u := u) reads' hr' h).2.2.2 n).symm

/-- What a read after any list of reads stores for a node is what was observed before the first of them. -/
theorem reads_store_observed {s : MState} (h : Coherent W s) (reads : List WStep)
    (hr : ∀ st ∈ reads, isRead st = true) (S : Node → Bool) {n : Node} (hn : S n = true) :
    (wstep u W (wrun u W s reads) (.read S)).cache n = observe W (toState s) n := by
  obtain ⟨_, _, h3, h4⟩ := reads_stable_world (u := u) reads hr h
  rw [(read_stable_world h3 S).2.2.2.1 n hn, h4 n]

/-- **All reads of a history can be erased.**  `steps'` is a legal history (`WRunOKE`) from a state with nothing
cached, `sF'` its final state; `sF` is the final state of the same history with *every* public read erased (erasing
some of them is not covered, see the head of the file).  Then
1. the read-free history is legal as well — no extra hypothesis;
2. both end in the same configuration and the same registers; the read-free history has nothing cached at its
   end (what it observes is a fresh calculation);
3. every node — configured or not, with metadata or not — is observed identically in the two final states;
4. if the final state is settled (`BuffSettled`) and the from-scratch table of its configuration has no
   `divZero` entry (and no fleet-boost effect is projectable), both observations at a configured item and an
   attribute with metadata are the table's entry. -/
theorem reads_erasable_world (hwf : rankWF u = true) (hun : UniqueAttrs u) (hR : ResistWF u)
    {cfg : Config} {d : Dyn} (hU : UniqueIds cfg) (hC : ChargeWF cfg) (hT : TgtKinds cfg d)
    (steps' : List WStep)
    (ok' : WRunOKE u immune limited pen (worldGraph u immune limited pen hwf) ⟨cfg, d, fun _ => none⟩ steps')
    (sF' sF : MState)
    (hF' : wrun u (worldGraph u immune limited pen hwf) ⟨cfg, d, fun _ => none⟩ steps' = sF')
    (hF : wrun u (worldGraph u immune limited pen hwf) ⟨cfg, d, fun _ => none⟩ (eraseReads steps') = sF) :
    WRunOKE u immune limited pen (worldGraph u immune limited pen hwf) ⟨cfg, d, fun _ => none⟩ (eraseReads steps') ∧
    sF.cfg = sF'.cfg ∧ sF.dyn = sF'.dyn ∧ (∀ n, sF.cache n = none) ∧
    (∀ n, observe (worldGraph u immune limited pen hwf) (toState sF) n =
      observe (worldGraph u immune limited pen hwf) (toState sF') n) ∧
    (BuffSettled u sF'.cfg immune limited pen sF'.dyn →
      (∀ e ∈ u.effects, e.isBuff = true → e.category ≠ 2) →
      (∀ entry ∈ evalAll u sF'.cfg immune limited pen, entry.2 ≠ .divZero) →
      ∀ x ∈ sF'.cfg.items, ∀ am ∈ u.attrs,
        observe (worldGraph u immune limited pen hwf) (toState sF) (x.id, am.id) =
          valToOption (World.read (evalAll u sF'.cfg immune limited pen) x am.id) ∧
        observe (worldGraph u immune limited pen hwf) (toState sF') (x.id, am.id) =
          valToOption (World.read (evalAll u sF'.cfg immune limited pen) x am.id)) := by
  subst hF; subst hF'
  have T := worldGraph_ties (immune := immune) (limited := limited) (pen := pen) hwf
  have ok := wrunOKE_forget_eraseReads _ steps' _ ok'
  have E := wrun_forget_eraseReads (u := u) (worldGraph u immune limited pen hwf) steps' ⟨cfg, d, fun _ => none⟩
  have hc := congrArg MState.cfg E
  have hd := congrArg MState.dyn E
  have hobs := micro_incremental_eq_scratch T hwf hun hR hU hC hT hU hC hT _ _ (wrunOK_of_wrunOKE T _ _ ok)
    (wrunOK_of_wrunOKE T _ _ ok') hc hd
  refine ⟨ok, hc, hd, congrFun (congrArg MState.cache E), hobs, fun hset hnp hnz x hx am ham => ?_⟩
  have h2 := world_read_eq_table_buff hwf hun hR hnp hU hC hT steps' ok' _ rfl hset hnz hx ham
  exact ⟨(hobs _).trans h2, h2⟩

/-- **Two legal histories that differ in their reads only are observed identically.**  Two histories from the same
state with nothing cached, *both legal* (`ok`, `ok'`: that a history with reads inserted is still legal — every read
set closed under valued dependencies up to what is cached — is not derived here), whose messages and level changes
are the same list (`hm`; the reads of either are arbitrary: anywhere, in any order, any number of times) end in the
same configuration and the same registers, every node is observed identically in the two final states, and — final
state settled, table `divZero`-free — both observations are the table's entry. -/
theorem reads_reorder_world (hwf : rankWF u = true) (hun : UniqueAttrs u) (hR : ResistWF u)
    {cfg : Config} {d : Dyn} (hU : UniqueIds cfg) (hC : ChargeWF cfg) (hT : TgtKinds cfg d)
    (steps steps' : List WStep)
    (ok : WRunOKE u immune limited pen (worldGraph u immune limited pen hwf) ⟨cfg, d, fun _ => none⟩ steps)
    (ok' : WRunOKE u immune limited pen (worldGraph u immune limited pen hwf) ⟨cfg, d, fun _ => none⟩ steps')
    (hm : eraseReads steps = eraseReads steps')
    (sF sF' : MState)
    (hF : wrun u (worldGraph u immune limited pen hwf) ⟨cfg, d, fun _ => none⟩ steps = sF)
    (hF' : wrun u (worldGraph u immune limited pen hwf) ⟨cfg, d, fun _ => none⟩ steps' = sF') :
    sF.cfg = sF'.cfg ∧ sF.dyn = sF'.dyn ∧
    (∀ n, observe (worldGraph u immune limited pen hwf) (toState sF) n =
      observe (worldGraph u immune limited pen hwf) (toState sF') n) ∧
    (BuffSettled u sF.cfg immune limited pen sF.dyn →
      (∀ e ∈ u.effects, e.isBuff = true → e.category ≠ 2) →
      (∀ entry ∈ evalAll u sF.cfg immune limited pen, entry.2 ≠ .divZero) →
      ∀ x ∈ sF.cfg.items, ∀ am ∈ u.attrs,
        observe (worldGraph u immune limited pen hwf) (toState sF) (x.id, am.id) =
          valToOption (World.read (evalAll u sF.cfg immune limited pen) x am.id) ∧
        observe (worldGraph u immune limited pen hwf) (toState sF') (x.id, am.id) =
          valToOption (World.read (evalAll u sF.cfg immune limited pen) x am.id)) := by
  -- each is observed as the read-free history they share
  obtain ⟨_, hc, hd, _, ho, ht⟩ := reads_erasable_world hwf hun hR hU hC hT steps ok sF _ hF (congrArg _ hm)
  obtain ⟨_, hc', hd', _, ho', _⟩ := reads_erasable_world hwf hun hR hU hC hT steps' ok' sF' _ hF' rfl
  exact ⟨hc.symm.trans hc', hd.symm.trans hd', fun n => (ho n).symm.trans (ho' n), fun hs hnp hnz x hx am ham =>
    ⟨(ht hs hnp hnz x hx am ham).2, (ho' _).symm.trans (ht hs hnp hnz x hx am ham).1⟩⟩

/-! `C01World.fleetHist` (start of the boost, registration of the buff, application to both ships, a read of ship 3's
attribute 37) is a legal history that ends `BuffSettled`.  Erasing its read leaves the four messages;
`reads_erasable_world` applies: the read-free history is legal, and although nothing is cached at its end (the full
history has 150 cached) the observation is the same, the table's 150.  The erased read is the last event, here and in
the next example, so no message is taken after an erased read; `fleetHistR` below has reads before messages. -/

example : eraseReads fleetHist = fleetHist.take 4 := rfl

example :
    WRunOKE fleetU specImmune specLimited fleetPen fleetW fleetS0 (eraseReads fleetHist) ∧
    observe fleetW (toState (wrun fleetU fleetW fleetS0 (eraseReads fleetHist))) (3, 37) =
      observe fleetW (toState (wrun fleetU fleetW fleetS0 fleetHist)) (3, 37) ∧
    observe fleetW (toState (wrun fleetU fleetW fleetS0 (eraseReads fleetHist))) (3, 37) = some 150 ∧
    (wrun fleetU fleetW fleetS0 (eraseReads fleetHist)).cache (3, 37) = none ∧
    (wrun fleetU fleetW fleetS0 fleetHist).cache (3, 37) = some 150 := by
  obtain ⟨h1, _, _, he, h4, h5⟩ := reads_erasable_world fleet_wf.1 fleet_wf.2.1 fleet_wf.2.2.1
    fleet_wf.2.2.2.1 fleet_wf.2.2.2.2.1 fleet_wf.2.2.2.2.2 fleetHist fleet_runOK _ _ rfl rfl
  refine ⟨h1, h4 _, ?_, he _, fleet_cache⟩
  exact (h5 fleet_hset fleet_hnp fleet_evalAll.1 _ fleet_ship3 _ fleet_attr37).1.trans (congrArg valToOption fleet_evalAll.2.2)

/-! `settleHist` without its read: 225. -/

example : eraseReads settleHist = settleHist.take 3 := rfl

example :
    WRunOKE settleU specImmune specLimited (fun _ => 1) settleW settleS0 (eraseReads settleHist) ∧
    observe settleW (toState (wrun settleU settleW settleS0 (eraseReads settleHist))) (1, 37) = some 225 ∧
    observe settleW (toState (wrun settleU settleW settleS0 settleHist)) (1, 37) = some 225 ∧
    (wrun settleU settleW settleS0 (eraseReads settleHist)).cache (1, 37) = none := by
  obtain ⟨h1, _, _, he, _, h5⟩ := reads_erasable_world settle_rank settle_wf.1 settle_wf.2.1
    settle_wf.2.2.1 settle_wf.2.2.2.1 settle_wf.2.2.2.2 settleHist settle_runOK _ _ rfl rfl
  have ht := congrArg valToOption settle_evalAll.2
  have hset : BuffSettled settleU settleCfg specImmune specLimited (fun _ => 1)
      (wrun settleU settleW settleS0 settleHist).dyn := by
    rw [settle_hset]; exact buffSettled_derived settle_noBuff
  have h := h5 hset (hnp_of_noBuff settle_noBuff) settle_evalAll.1 settleShip List.mem_cons_self
    ⟨37, none, none, true, true⟩ (List.mem_cons_of_mem _ List.mem_cons_self)
  exact ⟨h1, h.1.trans ht, h.2.trans ht, he _⟩

/-! `fleetHistR`: the messages of `fleetHist` with the un-boosted value of ship 3 read (twice) right after the start
— 100 is cached on the way and has to be invalidated by the application of the boost — and the final read
repeated.  It is legal, `eraseReads` of the two histories agree, and `reads_reorder_world` gives the same
observation, 150, at the node the reads cover and at ship 1's attribute 37, which no read of either covers. -/

def fleetHistR : List WStep :=
  [.micro (.start 2 [2000]), .read fun n => n == (3, 37), .read fun n => n == (3, 37),
   .micro (.unapply 2 2000 []), .micro (.buffset 2 2000 [fleetBM]), .micro (.apply 2 2000 [1, 3]),
   .read fun n => n == (3, 37) || n == (2, 2469), .read fun n => n == (3, 37) || n == (2, 2469)]

example : eraseReads fleetHistR = eraseReads fleetHist := rfl

theorem fleetR_runOK : WRunOKE fleetU specImmune specLimited fleetPen fleetW fleetS0 fleetHistR :=
  wrunOKE_of_errorFree _ _ _ (by unfold ErrorFree; decide +kernel)
    ⟨fun _ _ => rfl, legal_read_of_closed _ _ [(3, 37)] (by simp) (by decide +kernel),
      legal_read_of_closed _ _ [(3, 37)] (by simp) (by decide +kernel), trivial, rfl, solsys_of_all (by decide),
      legal_read_of_closed _ _ [(3, 37), (2, 2469)] (by simp) (by decide +kernel),
      legal_read_of_closed _ _ [(3, 37), (2, 2469)] (by simp) (by decide +kernel), trivial⟩

example :
    (∀ n, observe fleetW (toState (wrun fleetU fleetW fleetS0 fleetHistR)) n =
      observe fleetW (toState (wrun fleetU fleetW fleetS0 fleetHist)) n) ∧
    observe fleetW (toState (wrun fleetU fleetW fleetS0 fleetHistR)) (3, 37) = some 150 ∧
    observe fleetW (toState (wrun fleetU fleetW fleetS0 fleetHistR)) (1, 37) = some 150 ∧
    (wrun fleetU fleetW fleetS0 (fleetHistR.take 3)).cache (3, 37) = some 100 := by
  obtain ⟨_, _, h3, h4⟩ := reads_reorder_world fleet_wf.1 fleet_wf.2.1 fleet_wf.2.2.1
    fleet_wf.2.2.2.1 fleet_wf.2.2.2.2.1 fleet_wf.2.2.2.2.2 fleetHist fleetHistR fleet_runOK fleetR_runOK rfl _ _
    rfl rfl
  have h := h4 fleet_hset fleet_hnp fleet_evalAll.1
  refine ⟨fun n => (h3 n).symm, ?_, ?_, by decide +kernel⟩
  · exact (h _ fleet_ship3 _ fleet_attr37).2.trans (congrArg valToOption fleet_evalAll.2.2)
  · exact (h fleetShip1 List.mem_cons_self _ fleet_attr37).2.trans (congrArg valToOption fleet_evalAll.2.1)

/-! The final state of `fleetHist` is reachable, hence `MInv`, hence coherent: `read_stable_world` applies to a read
of ship 1's attribute 37 (not cached there): the observation of every node is unchanged, and the read stores what
was observed, 150. -/

example :
    (∀ n, observe fleetW (toState (wstep fleetU fleetW (wrun fleetU fleetW fleetS0 fleetHist)
        (.read fun n => n == (1, 37) || n == (2, 2469)))) n =
      observe fleetW (toState (wrun fleetU fleetW fleetS0 fleetHist)) n) ∧
    (wrun fleetU fleetW fleetS0 fleetHist).cache (1, 37) = none ∧
    (wstep fleetU fleetW (wrun fleetU fleetW fleetS0 fleetHist)
      (.read fun n => n == (1, 37) || n == (2, 2469))).cache (1, 37) =
        observe fleetW (toState (wrun fleetU fleetW fleetS0 fleetHist)) (1, 37) ∧
    observe fleetW (toState (wrun fleetU fleetW fleetS0 fleetHist)) (1, 37) = some 150 := by
  have inv := world_inv_run fleet_wf.1 fleet_wf.2.1 fleet_wf.2.2.1 fleet_wf.2.2.2.1 fleet_wf.2.2.2.2.1
    fleet_wf.2.2.2.2.2 _ fleet_runOK
  have h := read_stable_world (u := fleetU) (coherent_of_inv inv) (fun n => n == (1, 37) || n == (2, 2469))
  have he := (reads_erasable_world fleet_wf.1 fleet_wf.2.1 fleet_wf.2.2.1 fleet_wf.2.2.2.1
    fleet_wf.2.2.2.2.1 fleet_wf.2.2.2.2.2 fleetHist fleet_runOK _ _ rfl rfl).2.2.2.1
  refine ⟨h.2.2.1, ?_, h.2.2.2.1 _ rfl, ?_⟩
  · -- the final read does not cover `(1, 37)`, and the messages before it cache nothing
    have hk : (wrun fleetU fleetW fleetS0 fleetHist).cache (1, 37) =
        (wrun fleetU fleetW fleetS0 (eraseReads fleetHist)).cache (1, 37) := rfl
    rw [hk]; exact he _
  · exact (world_read_eq_table_buff fleet_wf.1 fleet_wf.2.1 fleet_wf.2.2.1 fleet_hnp fleet_wf.2.2.2.1
      fleet_wf.2.2.2.2.1 fleet_wf.2.2.2.2.2 fleetHist fleet_runOK _ rfl fleet_hset
      fleet_evalAll.1 (x := fleetShip1) List.mem_cons_self fleet_attr37).trans (congrArg valToOption fleet_evalAll.2.1)

end Eos.C09World
