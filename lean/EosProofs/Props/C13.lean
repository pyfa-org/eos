import EosProofs.Lemmas.Machine
import EosModel.World
import EosProofs.Lemmas.FleetTable
/-! # C13 — projected effects and fleet boosts reach exactly their current targets

Spec level (`EosModel.World`): which items a projected modifier and a fleet boost select, stated as exact
characterisations.  Machine level: the outcome does not depend on the order of the set-up steps, for every
history whose removal sets are legal (C01); the orders in which a *targeted item or boosted ship is loaded
later* are known finding K1 on the real code and are excluded there by hypothesis. -/
namespace Eos.C13
open Eos.DepCache Eos.Machine Eos.World

/-- A projectable effect is applied to the item's current target and to nothing else. -/
theorem projectionTargets_eq (cfg : Config) (a : Item) (e : Effect) (t : Nat)
    (hc : e.category = 2) (ht : a.target = some t) :
    projectionTargets cfg a e = (item? cfg t).toList := by
  unfold projectionTargets; simp [hc, ht]

/-- An effect that is not projectable (category other than `target`) reaches nobody. -/
theorem not_projectable_no_targets (cfg : Config) (a : Item) (e : Effect) (h : e.category ≠ 2) :
    projectionTargets cfg a e = [] := by
  simp [projectionTargets, h]

/-- No target, no projection. -/
theorem no_target_no_targets (cfg : Config) (a : Item) (e : Effect) (h : a.target = none) :
    projectionTargets cfg a e = [] := by
  unfold projectionTargets; rw [h]; split <;> rfl

/-- Item filter: exactly the target itself. -/
theorem affectsProjected_item_iff (cfg : Config) (a : Item) (m : Modifier) (t x : Item) (tx : ItemType)
    (h : m.filter = 1) : affectsProjected cfg a m t x tx = true ↔ x.id = t.id := by
  simp [affectsProjected, h]

/-- Location filters: exactly the items aboard the targeted ship (same fit, ship domain) that pass the
group / skill requirement filter; a target that is not the ship of its fit carries nobody. -/
theorem affectsProjected_location_iff (cfg : Config) (a : Item) (m : Modifier) (t x : Item) (tx : ItemType)
    (h : m.filter ≠ 1) :
    affectsProjected cfg a m t x tx = true ↔
      (t.kind = .ship ∧ shipOf cfg t.fit = some t.id ∧ x.fit = t.fit ∧ passesFilter a m 3 x tx = true) := by
  simp [affectsProjected, h, and_assoc]

/-- A fleet boost from fit `f` reaches exactly the ships of `f` itself and of the fits in the same fleet. -/
theorem mem_boostTargets (cfg : Config) (f : Nat) (s : Item) :
    s ∈ boostTargets cfg f ↔
      ∃ g ∈ cfg.fits, (g.id = f ∨ (((fit? cfg f).bind (·.fleet)).isSome = true ∧ g.fleet = (fit? cfg f).bind (·.fleet))) ∧
        g.ship.bind (item? cfg) = some s := by
  simp only [boostTargets, List.mem_filterMap, Option.ite_none_right_eq_some, Bool.or_eq_true, Bool.and_eq_true,
    beq_iff_eq]

/-- A fit outside every fleet boosts only itself. -/
theorem boost_without_fleet (cfg : Config) (f : Nat) (s : Item)
    (h : (fit? cfg f).bind (·.fleet) = none) (hs : s ∈ boostTargets cfg f) :
    ∃ g ∈ cfg.fits, g.id = f ∧ g.ship.bind (item? cfg) = some s := by
  obtain ⟨g, hg, hc, hsh⟩ := (mem_boostTargets cfg f s).mp hs
  refine ⟨g, hg, ?_, hsh⟩
  rcases hc with h1 | ⟨h2, _⟩
  · exact h1
  · rw [h] at h2; cases h2

variable {C N V : Type}

/-- Machine level: any two legal set-up histories that reach the same configuration (e.g. two orders of
ship / fleet membership / booster / target) are observationally equal.  *Partial*: legality of the
removal sets is a hypothesis; on the real code it fails for the K1 orders (known finding).
(`C01.incremental_eq_scratch` for one start configuration.) -/
theorem setup_order_irrelevant_partial (W : C → Graph N V) (o1 o2 : List (Step C N V)) (c : C)
    (h1 : LegalRun W { cfg := c, cache := fun _ => none } o1)
    (h2 : LegalRun W { cfg := c, cache := fun _ => none } o2)
    (hc : (run W { cfg := c, cache := fun _ => none } o1).cfg = (run W { cfg := c, cache := fun _ => none } o2).cfg)
    (n : N) :
    observe W (run W { cfg := c, cache := fun _ => none } o1) n =
      observe W (run W { cfg := c, cache := fun _ => none } o2) n :=
  observe_run_congr W (good_init W c) (good_init W c) h1 h2 hc n

/-! ## The regenerated fleet-boost table

`EosGen.FleetTable` is regenerated on every run by `tools/gen/fleet_table.py` (worlds and procedure: header of
`EosGen/FleetTable.lean`); `obs` is the observation in the world built from scratch, `obsInc` after cache-filling reads.
The booster is built last, which keeps both observations outside the known finding K1.  By definition
`specBoost c = (boostTargets c.cfg c.a.fit).any fun tg => affectsProjected c.cfg c.a c.m tg c.x c.tx`.
The kernel evaluates a check of the generated rows (`FleetRow.ok`, `EosModel/GatherTableSpec.lean`);
`Lemmas/FleetTable.lean` derives the statements about the specification's own functions from it. -/

section fleetTable
open Eos.AffectsSpec
open EosGen.FleetTable (fleetCases fleetCaseCount fleetBoostedCount)

/-- "a running fleet boost reaches exactly the ships of the boosting fit and of fits in the same fleet" (and,
through the template's filter, the items aboard them): on EVERY case of the regenerated table the specification's
`boostTargets` + `affectsProjected` is what the real code did, under both observations. -/
theorem fleet_table_matches_spec :
    ∀ c ∈ fleetCases, specBoost c = c.obs ∧ specBoost c = c.obsInc :=
  fun c hc => ⟨(fleet_table.all c hc).scr, (fleet_table.all c hc).inc⟩

/-- The modifier the real service makes of the template is one of the specification's `buffModifiers` of the
booster (values read from the booster's type). -/
theorem fleet_table_buff_modifier :
    ∀ c ∈ fleetCases, ∃ bms, buffModifiers c.u (baseReader c.u c.cfg) c.a = .ok bms ∧ c.m ∈ bms :=
  fun c hc => (fleet_table.all c hc).buff

/-- The fleet-boost branch of `gather` itself: for every case the specification gathers, for the template's
attribute of the item, nothing — or exactly one modification, with the template's operator, the booster's buff
value and resistance factor 1 — according to whether the real code boosted the item.  Attributes are read with
`baseReader` (type values): this is what `gather` collects, not the value computed from it. -/
theorem fleet_table_gather_matches :
    ∀ c ∈ fleetCases, ∃ v, baseReader c.u c.cfg c.a c.m.srcAttr = .ok v ∧
      gatherOutcome (gather c.u c.cfg specImmune (baseReader c.u c.cfg) c.x c.tx c.m.tgtAttr) c.m.op v =
        some (if c.obs then some 1 else none) :=
  fun c hc => (fleet_table.all c hc).gather

/-- The numbers of cases and of "boosted" cases are the generator's own numerals (`EosGen/FleetTable.lean`). -/
theorem fleet_table_complete :
    fleetCases.length = fleetCaseCount ∧ fleetCases.countP (·.obs) = fleetBoostedCount :=
  ⟨fleet_table.length, fleet_table.countF⟩

end fleetTable

end Eos.C13
