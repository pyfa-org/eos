import EosProofs.Props.C01World
import EosProofs.Props.C11World
import EosProofs.Lemmas.MicroTeardown
/-! # C14, message level — after a source switch every item reflects only the new source; switching back restores

`Props/C14.lean` states the property for the abstract cache machine (a mutation whose removal set is *everything*).
At the level of the calculation service's messages the universe `u` is a parameter of the handlers, not part of the
state, so **there is no switch step in the model**: the theorems are about a pair (history under `u₁`, history under
`u₂`) glued at the end state of a complete tear-down, which is how `SolarSystem.source = …` proceeds
(`eos/solar_system/solar_system.py`: `fit._unload_items()` for every fit, new source, `fit._load_items()`):

1. under the old source `u₁` every item is removed from the calculator — the complete tear-down `teardownAll`
   (`EffectUnapplied`, drop of the warfare-buff modifiers, `EffectsStopped`, `ItemUnloaded` + `attrs._clear()` for every
   item).  The theorems *assume* that it is taken under its side conditions (`SwitchOK`), in particular in an order
   with projectors before their targets (`k1`).  The real setter unloads fit by fit, character and ship first
   (`Fit._item_iter`), which is not such an order whenever a projector — of another fit or of the same — has the ship
   recorded: already for the fixture of this file (a module projecting onto the ship of its own fit) the setter's order,
   ship before module, is not a K1 order.  Those switches are outside the theorems (the correspondence checks count
   such unloads among the messages that fail `StepOK`);
2. the messages that follow (`ItemLoaded`, `EffectsStarted`, `EffectApplied`, …, reads) are handled under the new
   source `u₂`, starting **in the state the tear-down left** (`switchState`): same registers, same cache, and a
   configuration `cfg'` with the same item objects (fits and the `hasSource` flag may differ).  The history `hist₂` is
   any legal history from there; that it re-loads the items and ends in a settled state is a hypothesis (`hset`).

The link between the two phases (`switch_link`) is what the tear-down theorems of `C11World` deliver plus coherence
(`MInv`) of the state torn down: the tear-down is a legal run under `u₁`; after it the cache has **no entry at all**
(the nodes of configured items are cleared, and a coherent cache never holds a node of an item that is not
configured), the registers hold nothing for the items of `cfg'`, and whatever is still recorded under ids that are not
configured is harmless (`TgtKinds`).  Nothing else about `u₁` or the earlier history enters phase 2, so
`C01World.world_read_eq_table_buff` applies to it. -/
namespace Eos.C14World
open Eos.World Eos.Micro Eos.Micro.L Eos.DepCache Eos.Machine Eos.C01World

variable {u u₁ u₂ : Universe} {immune limited : List Int} {pen : Nat → Rat} {keep : Config → Node → Bool}
  {W : Config × Dyn → Graph Node Rat}

theorem cache_none_of_not_item (T : Ties u immune limited pen keep W) {s : MState} (inv : MInv W s) {n : Node}
    (h : item? s.cfg n.1 = none) : s.cache n = none :=
  Classical.byContradiction fun hn => by
    obtain ⟨x, _, hx, _⟩ := T.node_of_cached inv.good.coh hn
    rw [hx] at h; cases h

/-- `es`: the effect ids that may be registered. -/
def switchState (u : Universe) (es : List Int) (order : List Nat) (s : MState) (cfg' : Config) : MState :=
  ⟨cfg', (mrun u s (teardownAll u es order s)).dyn, (mrun u s (teardownAll u es order s)).cache⟩

theorem switchState_same (es : List Int) (order : List Nat) (s : MState) (hc : ∀ j, Covers s.dyn j es) :
    switchState u es order s s.cfg = mrun u s (teardownAll u es order s) := by
  have h := (teardownAll_spec (u := u) es order s hc).1
  unfold switchState
  rw [← h]

/-- Side conditions of a source switch in state `s` (old source `u`).
* `k1`: projectors are torn down before their targets (K1: the handlers do not revise a projection whose target is
  unloaded).  An assumption about the order of the tear-down, which the caller supplies; such an order need not exist
  (two items that have each other recorded admit none) and is not the order of the real setter, see the head of the
  file;
* `items`: the items of `cfg'` are items of the old configuration — the same objects; this is what carries "the
  registers hold nothing for them" and "recorded targets are solar-system items" over to `cfg'`. -/
structure SwitchOK (u : Universe) (W : Config × Dyn → Graph Node Rat) (s : MState) (es : List Int)
    (order : List Nat) (cfg' : Config) : Prop where
  covers : ∀ j, Covers s.dyn j es
  k1 : K1Order s.dyn [] order
  all : ∀ x ∈ s.cfg.items, x.id ∈ order
  static : MRunOK u (StaticAround u W) s (teardownAll u es order s)
  items : ∀ x ∈ cfg'.items, x ∈ s.cfg.items
  uniq : UniqueIds cfg'
  charge : ChargeWF cfg'

theorem SwitchOK.same {s : MState} (inv : MInv W s) {es : List Int} {order : List Nat}
    (hc : ∀ j, Covers s.dyn j es) (hk : K1Order s.dyn [] order) (hall : ∀ x ∈ s.cfg.items, x.id ∈ order)
    (hst : MRunOK u (StaticAround u W) s (teardownAll u es order s)) : SwitchOK u W s es order s.cfg :=
  ⟨hc, hk, hall, hst, fun _ h => h, inv.uniq, inv.charge⟩

/-- With `sw.uniq`, `sw.charge`: the initial-state hypotheses of `C01World.world_read_eq_table_buff` for `switchState`. -/
theorem switch_link (T : Ties u immune limited pen keep W) (hwf : rankWF u = true) (hun : UniqueAttrs u)
    (hR : ResistWF u) {s : MState} (inv : MInv W s) {es : List Int} {order : List Nat} {cfg' : Config}
    (sw : SwitchOK u W s es order cfg') :
    (switchState u es order s cfg').cache = (fun _ => none) ∧
    DynEmptyOn cfg' (switchState u es order s cfg').dyn ∧
    TgtKinds cfg' (switchState u es order s cfg').dyn := by
  have inv' : MInv W (mrun u s (teardownAll u es order s)) :=
    mrunAll_last _ _ (C11World.teardown_all_legal T hwf hun hR es order s inv sw.covers sw.k1 sw.static)
  obtain ⟨hcfg, hemp, hcache⟩ := C11World.teardown_all_empty (u := u) es order s sw.covers sw.all
  refine ⟨?_, fun x hx => hemp x (sw.items x hx), ?_⟩
  · funext n
    show (mrun u s (teardownAll u es order s)).cache n = none
    cases hx : item? s.cfg n.1 with
    | none => exact cache_none_of_not_item T inv' (by rw [hcfg]; exact hx)
    | some x =>
      have := hcache x (item?_mem hx) n.2
      rwa [item?_id hx] at this
  · intro a e t ht
    obtain ⟨j, hj, hjt⟩ := mem_targetsOf.1 ht
    have ht1 : t ∈ s.cfg.items := sw.items t (item?_mem hjt)
    have hjt1 : item? s.cfg j = some t := by
      have := Micro.item?_of_mem inv.uniq ht1
      rwa [item?_id hjt] at this
    exact inv'.tgts a e t (mem_targetsOf.2 ⟨j, hj, by rw [hcfg]; exact hjt1⟩)

theorem switch_phase
    (hwf₁ : rankWF u₁ = true) (hun₁ : UniqueAttrs u₁) (hR₁ : ResistWF u₁)
    (hwf₂ : rankWF u₂ = true) (hun₂ : UniqueAttrs u₂) (hR₂ : ResistWF u₂)
    {s₁ : MState} (inv₁ : MInv (worldGraph u₁ immune limited pen hwf₁) s₁)
    {es : List Int} {order : List Nat} {cfg₂ : Config}
    (sw : SwitchOK u₁ (worldGraph u₁ immune limited pen hwf₁) s₁ es order cfg₂)
    (hist₂ : List WStep)
    (ok₂ : WRunOKE u₂ immune limited pen (worldGraph u₂ immune limited pen hwf₂)
      (switchState u₁ es order s₁ cfg₂) hist₂)
    (sF : MState)
    (hF : wrun u₂ (worldGraph u₂ immune limited pen hwf₂) (switchState u₁ es order s₁ cfg₂) hist₂ = sF) :
    MInv (worldGraph u₂ immune limited pen hwf₂) sF ∧
    ((∀ e ∈ u₂.effects, e.isBuff = true → e.category ≠ 2) →
      BuffSettled u₂ sF.cfg immune limited pen sF.dyn →
      (∀ entry ∈ evalAll u₂ sF.cfg immune limited pen, entry.2 ≠ .divZero) →
      ∀ x ∈ sF.cfg.items, ∀ am ∈ u₂.attrs,
        observe (worldGraph u₂ immune limited pen hwf₂) (toState sF) (x.id, am.id) =
          valToOption (World.read (evalAll u₂ sF.cfg immune limited pen) x am.id)) := by
  obtain ⟨hcache, _, hT₂⟩ := switch_link (worldGraph_ties hwf₁) hwf₁ hun₁ hR₁ inv₁ sw
  -- `switchState` is a state with nothing cached
  have hs : switchState u₁ es order s₁ cfg₂ = ⟨cfg₂, (switchState u₁ es order s₁ cfg₂).dyn, fun _ => none⟩ :=
    congrArg (MState.mk cfg₂ _) hcache
  rw [hs] at ok₂ hF
  refine ⟨hF ▸ world_inv_run hwf₂ hun₂ hR₂ sw.uniq sw.charge hT₂ hist₂ ok₂, ?_⟩
  intro hnp₂ hset hnz x hx am ham
  exact world_read_eq_table_buff hwf₂ hun₂ hR₂ hnp₂ sw.uniq sw.charge hT₂ hist₂ ok₂ sF hF hset hnz hx ham

/-- **After a source switch every observation is the new source's from-scratch table.**

Phase 1 (old source `u₁`): `hist₁` is a legal message history (`WRunOKE`) from a state with nothing cached,
reaching `s₁`.  Switch: the complete tear-down of `s₁` under `u₁`, *assumed* to be taken under its side conditions
(`sw`: in particular in an order with projectors before their targets, which is not the order of the real setter
when a projection onto the ship is live — see the head of the file); phase 2 starts in
`switchState u₁ es order s₁ cfg₂` — the registers and the cache the tear-down left, with a configuration of the same
item objects.  Phase 2 (new source `u₂`): `hist₂` is *any* legal message history from that state, *assumed* to end
in a state `sF` that is settled for `u₂` (`hset : BuffSettled …`) and whose table has no division by zero.

Conclusion: the tear-down extends `hist₁` to a legal history under `u₁`; what it hands over is an empty cache
and registers that are empty on the items of `cfg₂` (this — `switch_link` — is all that phase 2 uses of phase 1);
and for every item `x` of the final configuration and every attribute `am` of `u₂`, the observation in `sF` is
`World.read` of `evalAll u₂ sF.cfg`: no value computed under `u₁`, no register content of the earlier history
survives.  The last clause is `C01World.world_read_eq_table_buff` for phase 2 alone; "every item reflects the new
source" is thus as strong as `hset`.  Nothing relates `u₁` to `u₂`. -/
theorem switch_source_world
    (hwf₁ : rankWF u₁ = true) (hun₁ : UniqueAttrs u₁) (hR₁ : ResistWF u₁)
    (hwf₂ : rankWF u₂ = true) (hun₂ : UniqueAttrs u₂) (hR₂ : ResistWF u₂)
    (hnp₂ : ∀ e ∈ u₂.effects, e.isBuff = true → e.category ≠ 2)
    {cfg : Config} {d : Dyn} (hU : UniqueIds cfg) (hC : ChargeWF cfg) (hT : TgtKinds cfg d)
    (hist₁ : List WStep)
    (ok₁ : WRunOKE u₁ immune limited pen (worldGraph u₁ immune limited pen hwf₁) ⟨cfg, d, fun _ => none⟩ hist₁)
    (s₁ : MState) (h₁ : wrun u₁ (worldGraph u₁ immune limited pen hwf₁) ⟨cfg, d, fun _ => none⟩ hist₁ = s₁)
    (es : List Int) (order : List Nat) (cfg₂ : Config)
    (sw : SwitchOK u₁ (worldGraph u₁ immune limited pen hwf₁) s₁ es order cfg₂)
    (hist₂ : List WStep)
    (ok₂ : WRunOKE u₂ immune limited pen (worldGraph u₂ immune limited pen hwf₂)
      (switchState u₁ es order s₁ cfg₂) hist₂)
    (sF : MState)
    (hF : wrun u₂ (worldGraph u₂ immune limited pen hwf₂) (switchState u₁ es order s₁ cfg₂) hist₂ = sF)
    (hset : BuffSettled u₂ sF.cfg immune limited pen sF.dyn)
    (hnz : ∀ entry ∈ evalAll u₂ sF.cfg immune limited pen, entry.2 ≠ .divZero) :
    WRunOK u₁ (worldGraph u₁ immune limited pen hwf₁) ⟨cfg, d, fun _ => none⟩
      (hist₁ ++ (teardownAll u₁ es order s₁).map .micro) ∧
    (switchState u₁ es order s₁ cfg₂).cache = (fun _ => none) ∧
    DynEmptyOn cfg₂ (switchState u₁ es order s₁ cfg₂).dyn ∧
    ∀ x ∈ sF.cfg.items, ∀ am ∈ u₂.attrs,
      observe (worldGraph u₂ immune limited pen hwf₂) (toState sF) (x.id, am.id) =
        valToOption (World.read (evalAll u₂ sF.cfg immune limited pen) x am.id) := by
  have T₁ := worldGraph_ties (immune := immune) (limited := limited) (pen := pen) hwf₁
  have okW₁ := wrunOK_of_wrunOKE T₁ hist₁ _ ok₁
  have inv₁ : MInv (worldGraph u₁ immune limited pen hwf₁) s₁ := h₁ ▸ world_inv_run hwf₁ hun₁ hR₁ hU hC hT hist₁ ok₁
  obtain ⟨hcache, hemp, _⟩ := switch_link T₁ hwf₁ hun₁ hR₁ inv₁ sw
  have hobs := (switch_phase hwf₁ hun₁ hR₁ hwf₂ hun₂ hR₂ inv₁ sw hist₂ ok₂ sF hF).2 hnp₂ hset hnz
  subst h₁
  exact ⟨(C11World.history_then_teardown T₁ hwf₁ hun₁ hR₁ hU hC hT hist₁ okW₁ es order sw.covers sw.k1
    sw.all sw.static).1, hcache, hemp, hobs⟩

/-- **Switching back restores every observation.**  `u₁ → u₂ → u₁`:
* phase A under `u₁`: a legal history `histA` from an empty cache to `sA`, settled, table without division by
  zero (the hypotheses of the headline theorem) — `sA` is "the state before the first switch";
* first switch (`sw₁`): complete tear-down of `sA` under `u₁`; phase B under `u₂`: any legal history `histB`
  from `switchState u₁ … sA cfg₂` to `sB` (it need not end settled; only `rankWF`, `UniqueAttrs`, `ResistWF` of
  `u₂` are used, to know that `sB` can be torn down legally);
* second switch (`sw₂`): complete tear-down of `sB` under `u₂`; phase C under `u₁`: a legal history `histC` from
  `switchState u₂ … sB cfg₃` to `sC`, settled, **with the configuration `sA` had** (`hcfg`).
Then every configured item and attribute is observed in `sC` exactly as it was in `sA` — both are the entry of
`u₁`'s from-scratch table of that configuration; nothing of `u₂` is left.  "Restores" rests on the hypotheses that
phase C ends settled (`hsetC`) in the configuration of `sA` (`hcfg`), and on both tear-downs being taken under their
side conditions (`sw₁`, `sw₂`, see `SwitchOK`); what the theorem adds to `C13World.setup_order_irrelevant_world` is
that the two tear-downs are legal and hand over an empty cache. -/
theorem switch_back_world
    (hwf₁ : rankWF u₁ = true) (hun₁ : UniqueAttrs u₁) (hR₁ : ResistWF u₁)
    (hnp₁ : ∀ e ∈ u₁.effects, e.isBuff = true → e.category ≠ 2)
    (hwf₂ : rankWF u₂ = true) (hun₂ : UniqueAttrs u₂) (hR₂ : ResistWF u₂)
    {cfg : Config} {d : Dyn} (hU : UniqueIds cfg) (hC : ChargeWF cfg) (hT : TgtKinds cfg d)
    -- phase A, under `u₁`
    (histA : List WStep)
    (okA : WRunOKE u₁ immune limited pen (worldGraph u₁ immune limited pen hwf₁) ⟨cfg, d, fun _ => none⟩ histA)
    (sA : MState) (hA : wrun u₁ (worldGraph u₁ immune limited pen hwf₁) ⟨cfg, d, fun _ => none⟩ histA = sA)
    (hsetA : BuffSettled u₁ sA.cfg immune limited pen sA.dyn)
    (hnz : ∀ entry ∈ evalAll u₁ sA.cfg immune limited pen, entry.2 ≠ .divZero)
    -- switch `u₁ → u₂`, phase B under `u₂`
    (es₁ : List Int) (order₁ : List Nat) (cfg₂ : Config)
    (sw₁ : SwitchOK u₁ (worldGraph u₁ immune limited pen hwf₁) sA es₁ order₁ cfg₂)
    (histB : List WStep)
    (okB : WRunOKE u₂ immune limited pen (worldGraph u₂ immune limited pen hwf₂)
      (switchState u₁ es₁ order₁ sA cfg₂) histB)
    (sB : MState)
    (hB : wrun u₂ (worldGraph u₂ immune limited pen hwf₂) (switchState u₁ es₁ order₁ sA cfg₂) histB = sB)
    -- switch `u₂ → u₁`, phase C under `u₁`
    (es₂ : List Int) (order₂ : List Nat) (cfg₃ : Config)
    (sw₂ : SwitchOK u₂ (worldGraph u₂ immune limited pen hwf₂) sB es₂ order₂ cfg₃)
    (histC : List WStep)
    (okC : WRunOKE u₁ immune limited pen (worldGraph u₁ immune limited pen hwf₁)
      (switchState u₂ es₂ order₂ sB cfg₃) histC)
    (sC : MState)
    (hC' : wrun u₁ (worldGraph u₁ immune limited pen hwf₁) (switchState u₂ es₂ order₂ sB cfg₃) histC = sC)
    (hsetC : BuffSettled u₁ sC.cfg immune limited pen sC.dyn)
    (hcfg : sC.cfg = sA.cfg)
    {x : Item} (hx : x ∈ sA.cfg.items) {am : AttrMeta} (ham : am ∈ u₁.attrs) :
    observe (worldGraph u₁ immune limited pen hwf₁) (toState sC) (x.id, am.id) =
      observe (worldGraph u₁ immune limited pen hwf₁) (toState sA) (x.id, am.id) ∧
    observe (worldGraph u₁ immune limited pen hwf₁) (toState sA) (x.id, am.id) =
      valToOption (World.read (evalAll u₁ sA.cfg immune limited pen) x am.id) := by
  have hobsA := world_read_eq_table_buff hwf₁ hun₁ hR₁ hnp₁ hU hC hT histA okA sA hA hsetA hnz hx ham
  have invA : MInv (worldGraph u₁ immune limited pen hwf₁) sA := hA ▸ world_inv_run hwf₁ hun₁ hR₁ hU hC hT histA okA
  have invB := (switch_phase hwf₁ hun₁ hR₁ hwf₂ hun₂ hR₂ invA sw₁ histB okB sB hB).1
  have hobsC := (switch_phase hwf₂ hun₂ hR₂ hwf₁ hun₁ hR₁ invB sw₂ histC okC sC hC').2 hnp₁ hsetC
    (hcfg ▸ hnz) x (hcfg ▸ hx) am ham
  rw [hcfg] at hobsC
  exact ⟨hobsC.trans hobsA.symm, hobsA⟩

def emptyDyn : Dyn := ⟨fun _ => false, fun _ _ => false, fun _ _ => [], fun _ _ => []⟩

def DynOnItems (cfg : Config) (d : Dyn) : Prop :=
  ∀ i, (d.loaded i = true ∨ ∃ e, d.on i e = true ∨ d.tgts i e ≠ [] ∨ d.bspecs i e ≠ []) →
    ∃ x ∈ cfg.items, x.id = i

theorem dynOnItems_of_dynFin {cfg : Config} {d : Dyn} (h : DynFin u cfg d) : DynOnItems cfg d := by
  rintro i (hl | ⟨e, ho | ht | hb⟩)
  · exact h.loaded i hl
  · obtain ⟨x, hx, hi, _⟩ := h.on i e ho; exact ⟨x, hx, hi⟩
  · obtain ⟨x, hx, hi, _⟩ := h.tgts i e ht; exact ⟨x, hx, hi⟩
  · obtain ⟨x, hx, hi, _⟩ := h.bspecs i e hb; exact ⟨x, hx, hi⟩

theorem teardownAll_dyn_empty (es : List Int) (order : List Nat) (s : MState) (hc : ∀ j, Covers s.dyn j es)
    (hall : ∀ x ∈ s.cfg.items, x.id ∈ order) (hfin : DynOnItems s.cfg s.dyn) :
    (mrun u s (teardownAll u es order s)).dyn = emptyDyn := by
  rw [(teardownAll_spec (u := u) es order s hc).2.1]
  -- an item outside `order` is not configured, so the registers held nothing for it
  have key : ∀ i, (clearItems s.dyn order).loaded i = false ∧ ∀ e, (clearItems s.dyn order).on i e = false ∧
      (clearItems s.dyn order).tgts i e = [] ∧ (clearItems s.dyn order).bspecs i e = [] := by
    intro i
    by_cases hi : i ∈ order
    · exact clearItems_of_mem hi
    · have h := mt (hfin i) fun ⟨x, hx, hxi⟩ => hi (hxi ▸ hall x hx)
      simp only [not_or, not_exists, Bool.not_eq_true, ne_eq, not_not] at h
      have hn := clearItems_of_not_mem (d := s.dyn) hi
      exact ⟨hn.1.trans h.1, fun e => ⟨((hn.2 e).1).trans (h.2 e).1, ((hn.2 e).2.1).trans (h.2 e).2.1,
        ((hn.2 e).2.2).trans (h.2 e).2.2⟩⟩
  show (⟨_, _, _, _⟩ : Dyn) = emptyDyn
  unfold emptyDyn
  congr 1 <;> funext i
  exacts [(key i).1, funext fun e => ((key i).2 e).1, funext fun e => ((key i).2 e).2.1,
    funext fun e => ((key i).2 e).2.2]

theorem switchState_eq_empty (T : Ties u immune limited pen keep W) (hwf : rankWF u = true) (hun : UniqueAttrs u)
    (hR : ResistWF u) {s : MState} (inv : MInv W s) {es : List Int} {order : List Nat} {cfg' : Config}
    (sw : SwitchOK u W s es order cfg') (hfin : DynOnItems s.cfg s.dyn) :
    switchState u es order s cfg' = ⟨cfg', emptyDyn, fun _ => none⟩ := by
  have hcache := (switch_link T hwf hun hR inv sw).1
  have hdyn := teardownAll_dyn_empty (u := u) es order s sw.covers sw.all hfin
  unfold switchState at hcache ⊢
  rw [hdyn]
  congr 1

/-! `settleU → settleU2 → settleU` on the two-item world of `Lemmas/MicroSettle.lean`.  Phase A is `settleHist` under
`settleU` (`settle_runOK`, `settle_hset` of `Lemmas/WorldFixtures.lean`; the ship's attribute 37 reads
(100 + 3/2 − 3/2) · 3/2 · 3/2 = 225).  The switch tears the module down first (it projects onto the ship), then the
ship — a K1 order, not the order `[1, 2]` of the real setter, which is none here.  `settleU2` is another source for the same type ids: the ship type's attribute 37
is 200.  Phase B under `settleU2` — `bootHist`: `ItemLoaded` for both items, then the messages of `settleHist` —
starts in the state the tear-down left and reads 450; switching back the same way reads 225 again. -/

def settleU2 : Universe :=
  { settleU with types := [⟨1, none, some 6, none, [(37, 200)], [], []⟩,
                           ⟨2, none, some 7, some 1000, [(20, 3/2)], [1000, 1001], []⟩] }
abbrev settleW2 : Config × Dyn → Graph Node Rat :=
  worldGraph settleU2 specImmune specLimited (fun _ => 1) (by decide)
def settleE : MState := ⟨settleCfg, emptyDyn, fun _ => none⟩
def bootHist : List WStep := .micro (.load 1) :: .micro (.load 2) :: settleHist
abbrev settleTd : List MStep :=
  [.unapply 2 1000 [1], .unapply 2 1001 [1], .stop 2 [1000, 1001], .unload 2, .stop 1 [], .unload 1]

/-- The second source has the attributes and effects of the first. -/
theorem settle2_wf : rankWF settleU2 = true ∧ UniqueAttrs settleU2 ∧ ResistWF settleU2 :=
  ⟨by decide +kernel, settle_wf.1, settle_wf.2.1⟩

/-- Side conditions of the switch for a state of `settleCfg` whose only recorded target is the ship, recorded by the
module (the part that does not depend on the source). -/
theorem settle_switchOK {u : Universe} {W : Config × Dyn → Graph Node Rat} {s : MState} (hc : s.cfg = settleCfg)
    (hfin : DynFin u settleCfg s.dyn) (hes : ∀ x ∈ settleCfg.items, ∀ e ∈ effsOf u x, e ∈ [1000, 1001])
    (hk : ∀ x ∈ settleCfg.items, ∀ e ∈ effsOf u x, ∀ t ∈ s.dyn.tgts x.id e, x.id = 2 ∧ t = 1)
    (hst : MRunOK u (StaticAround u W) s (teardownAll u [1000, 1001] [2, 1] s)) :
    SwitchOK u W s [1000, 1001] [2, 1] settleCfg :=
  have hk := hfin.forall_mem_tgts (P := fun a _ t => a = 2 ∧ t = 1) hk
  ⟨covers_of_dynFin hfin hes,
    ⟨fun a e h => .inl (hk a e 2 h).1, fun a e h => .inr ((hk a e 1 h).1 ▸ List.mem_cons_self), trivial⟩,
    hc ▸ (by decide), hst, fun x hx => hc ▸ hx, settle_wf.2.2.1, settle_wf.2.2.2.1⟩

abbrev settleA : MState := wrun settleU settleW settleS0 settleHist

theorem settleA_dynFin : DynFin settleU settleCfg settleA.dyn :=
  dynFin_wrun settleW settleHist settleS0 settle_dynFin0 (by decide)

theorem settleA_switchOK : SwitchOK settleU settleW settleA [1000, 1001] [2, 1] settleCfg := by
  refine settle_switchOK rfl settleA_dynFin (by decide) (by decide +kernel) ?_
  exact mrunOK_static_of_errorFree (worldGraph_ties (u := settleU) (immune := specImmune) (limited := specLimited)
    (pen := fun _ => 1) settle_rank) _ _ (by unfold ErrorFree; decide +kernel)

theorem boot_runOK : WRunOKE settleU specImmune specLimited (fun _ => 1) settleW settleE bootHist :=
  wrunOKE_of_errorFree _ _ _ (by unfold ErrorFree; decide +kernel)
    ⟨⟨fun _ h => absurd rfl h, fun _ => rfl, fun _ _ => List.not_mem_nil⟩,
      ⟨fun _ h => absurd rfl h, fun _ => rfl, fun _ _ => List.not_mem_nil⟩, fun _ _ => rfl,
      solsys_of_all (by decide), solsys_of_all (by decide),
      legal_read_of_closed _ _ [(1, 37), (2, 20)] (by simp) (by decide +kernel), trivial⟩

theorem dynFin_emptyDyn (u : Universe) (cfg : Config) : DynFin u cfg emptyDyn :=
  dynFin_idle fun _ h => nomatch h

theorem boot_hset : (wrun settleU settleW settleE bootHist).dyn = derivedDyn settleU settleCfg :=
  (dynFin_wrun settleW bootHist settleE (dynFin_emptyDyn _ _) (by decide)).ext (dynFin_derivedDyn (by decide))
    (by decide +kernel)

theorem boot2_runOK : WRunOKE settleU2 specImmune specLimited (fun _ => 1) settleW2 settleE bootHist :=
  wrunOKE_of_errorFree _ _ _ (by unfold ErrorFree; decide +kernel)
    ⟨⟨fun _ h => absurd rfl h, fun _ => rfl, fun _ _ => List.not_mem_nil⟩,
      ⟨fun _ h => absurd rfl h, fun _ => rfl, fun _ _ => List.not_mem_nil⟩, fun _ _ => rfl,
      solsys_of_all (by decide), solsys_of_all (by decide),
      legal_read_of_closed _ _ [(1, 37), (2, 20)] (by simp) (by decide +kernel), trivial⟩

theorem boot2_dynFin : DynFin settleU2 settleCfg (wrun settleU2 settleW2 settleE bootHist).dyn :=
  dynFin_wrun settleW2 bootHist settleE (dynFin_emptyDyn _ _) (by decide)

theorem boot2_hset : (wrun settleU2 settleW2 settleE bootHist).dyn = derivedDyn settleU2 settleCfg :=
  boot2_dynFin.ext (dynFin_derivedDyn (by decide)) (by decide +kernel)

/-- `settleA`: the state before the first switch; `swA`: what its tear-down under `settleU` hands to `settleU2`;
`settleB`: the state `bootHist` reaches from there under `settleU2`; `swB`: what the tear-down of `settleB` under
`settleU2` hands back to `settleU`; `settleC`: the state `bootHist` reaches from there under `settleU`. -/
abbrev swA : MState := switchState settleU [1000, 1001] [2, 1] settleA settleCfg
abbrev settleB : MState := wrun settleU2 settleW2 swA bootHist
abbrev swB : MState := switchState settleU2 [1000, 1001] [2, 1] settleB settleCfg
abbrev settleC : MState := wrun settleU settleW swB bootHist

theorem settleA_inv : MInv settleW settleA :=
  world_inv_run settle_rank settle_wf.1 settle_wf.2.1 settle_wf.2.2.1 settle_wf.2.2.2.1 settle_wf.2.2.2.2
    settleHist settle_runOK

theorem swA_eq : swA = settleE :=
  switchState_eq_empty (worldGraph_ties settle_rank) settle_rank settle_wf.1 settle_wf.2.1 settleA_inv
    settleA_switchOK (dynOnItems_of_dynFin settleA_dynFin)

theorem settleB_eq : settleB = wrun settleU2 settleW2 settleE bootHist := by
  show wrun settleU2 settleW2 swA bootHist = _
  rw [swA_eq]

theorem settleB_inv : MInv settleW2 settleB := by
  rw [settleB_eq]
  exact world_inv_run settle2_wf.1 settle2_wf.2.1 settle2_wf.2.2 settle_wf.2.2.1 settle_wf.2.2.2.1
    (tgtKinds_of_nil fun _ _ => rfl) bootHist boot2_runOK

theorem settleB_switchOK : SwitchOK settleU2 settleW2 settleB [1000, 1001] [2, 1] settleCfg := by
  rw [settleB_eq]
  refine settle_switchOK rfl boot2_dynFin (by decide) (by decide +kernel) ?_
  exact mrunOK_static_of_errorFree (worldGraph_ties (u := settleU2) (immune := specImmune) (limited := specLimited)
    (pen := fun _ => 1) settle2_wf.1) _ _ (by unfold ErrorFree; decide +kernel)

theorem swB_eq : swB = settleE :=
  switchState_eq_empty (worldGraph_ties settle2_wf.1) settle2_wf.1 settle2_wf.2.1 settle2_wf.2.2 settleB_inv
    settleB_switchOK (by rw [settleB_eq]; exact dynOnItems_of_dynFin boot2_dynFin)

theorem settleC_eq : settleC = wrun settleU settleW settleE bootHist := by
  show wrun settleU settleW swB bootHist = _
  rw [swB_eq]

theorem settle_switch_obs :
    observe settleW (toState settleA) (1, 37) = some 225 ∧
    observe settleW2 (toState settleB) (1, 37) = some 450 ∧
    observe settleW (toState settleC) (1, 37) = some 225 := by
  refine ⟨observe_of_cached settle_cache, ?_, ?_⟩
  · rw [settleB_eq]; decide +kernel
  · rw [settleC_eq]; decide +kernel

example :
    WRunOK settleU settleW settleS0 (settleHist ++ settleTd.map .micro) ∧
    swA.cache = (fun _ => none) ∧ DynEmptyOn settleCfg swA.dyn ∧
    ∀ x ∈ settleCfg.items, ∀ am ∈ settleU2.attrs,
      observe settleW2 (toState settleB) (x.id, am.id) =
        valToOption (World.read (evalAll settleU2 settleCfg specImmune specLimited (fun _ => 1)) x am.id) := by
  have ok₂ : WRunOKE settleU2 specImmune specLimited (fun _ => 1) settleW2 swA bootHist := by
    rw [swA_eq]; exact boot2_runOK
  have hset : BuffSettled settleU2 settleB.cfg specImmune specLimited (fun _ => 1) settleB.dyn := by
    rw [settleB_eq]
    show BuffSettled settleU2 settleCfg _ _ _ _
    rw [boot2_hset]; exact buffSettled_derived settle_noBuff
  have hcfg : settleB.cfg = settleCfg := by rw [settleB_eq]; rfl
  have h := switch_source_world (u₁ := settleU) (u₂ := settleU2) settle_rank settle_wf.1 settle_wf.2.1
    settle2_wf.1 settle2_wf.2.1 settle2_wf.2.2 (hnp_of_noBuff settle_noBuff) settle_wf.2.2.1 settle_wf.2.2.2.1 settle_wf.2.2.2.2
    settleHist settle_runOK settleA rfl [1000, 1001] [2, 1] settleCfg settleA_switchOK bootHist ok₂ settleB rfl
    hset (by rw [hcfg]; decide +kernel)
  rw [hcfg] at h
  exact h

example :
    observe settleW (toState settleA) (1, 37) = some 225 ∧
    World.read (evalAll settleU2 settleCfg specImmune specLimited (fun _ => 1)) settleShip 37 = .ok 450 ∧
    observe settleW2 (toState settleB) (1, 37) = some 450 ∧
    swA.cache (1, 37) = none := by
  exact ⟨settle_switch_obs.1, by decide +kernel, settle_switch_obs.2.1, by rw [swA_eq]; rfl⟩

example : ∀ x ∈ settleCfg.items, ∀ am ∈ settleU.attrs,
    observe settleW (toState settleC) (x.id, am.id) = observe settleW (toState settleA) (x.id, am.id) ∧
    observe settleW (toState settleA) (x.id, am.id) =
      valToOption (World.read (evalAll settleU settleCfg specImmune specLimited (fun _ => 1)) x am.id) := by
  intro x hx am ham
  have okB : WRunOKE settleU2 specImmune specLimited (fun _ => 1) settleW2 swA bootHist := by
    rw [swA_eq]; exact boot2_runOK
  have okC : WRunOKE settleU specImmune specLimited (fun _ => 1) settleW swB bootHist := by
    rw [swB_eq]; exact boot_runOK
  have hsetA : BuffSettled settleU settleA.cfg specImmune specLimited (fun _ => 1) settleA.dyn := by
    show BuffSettled settleU settleCfg _ _ _ (wrun settleU settleW settleS0 settleHist).dyn
    rw [settle_hset]; exact buffSettled_derived settle_noBuff
  have hsetC : BuffSettled settleU settleC.cfg specImmune specLimited (fun _ => 1) settleC.dyn := by
    rw [settleC_eq]
    show BuffSettled settleU settleCfg _ _ _ _
    rw [boot_hset]; exact buffSettled_derived settle_noBuff
  have hcfg : settleC.cfg = settleA.cfg := by rw [settleC_eq]; exact Eq.refl settleCfg
  exact switch_back_world (u₁ := settleU) (u₂ := settleU2) settle_rank settle_wf.1 settle_wf.2.1 (hnp_of_noBuff settle_noBuff)
    settle2_wf.1 settle2_wf.2.1 settle2_wf.2.2 settle_wf.2.2.1 settle_wf.2.2.2.1 settle_wf.2.2.2.2
    settleHist settle_runOK settleA rfl hsetA settle_evalAll.1
    [1000, 1001] [2, 1] settleCfg settleA_switchOK bootHist okB settleB rfl
    [1000, 1001] [2, 1] settleCfg settleB_switchOK bootHist okC settleC rfl hsetC hcfg hx ham

example :
    observe settleW (toState settleA) (1, 37) = some 225 ∧
    observe settleW2 (toState settleB) (1, 37) = some 450 ∧
    observe settleW (toState settleC) (1, 37) = some 225 :=
  settle_switch_obs

end Eos.C14World
