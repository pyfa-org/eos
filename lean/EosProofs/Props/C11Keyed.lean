import EosProofs.Lemmas.Keyed
/-! C11 (no residue), register level: lookups in a `KeyedStorage` answer exactly the entries added and not yet removed
    after every history of calls (`run_refines`), and after a history without `add_data_set(key, ())` a key exists only
    while its bucket is non-empty (`noEmpty_run`, `run_no_residue`) — no bound on length or sizes. -/
namespace Eos.Keyed

/-- entry calls are the singleton set calls -/
theorem addEntry_eq_addSet (s : Store) (k v : Nat) : addEntry s k v = addSet s k [v] := by
  rw [addEntry_eq, addSet_eq]; rfl

/-- A lookup after `add_data_set` reads what was there and, under the key worked on, the data added. -/
theorem mem_bucket_addSet {s : Store} {k k' x : Nat} {d} :
    x ∈ bucket (addSet s k d) k' ↔ x ∈ bucket s k' ∨ (k' = k ∧ x ∈ d) :=
  addSet_eq .. ▸ mem_bucket_addWith mem_union

/-- The removing methods need one bucket per key, since they work on the first match only; `rm_data_entry` also needs
    the bucket to be a set, since `List.erase` takes out one occurrence. -/
theorem mem_bucket_rmSet {s : Store} {k k' x : Nat} {d} (h : (keys s).Nodup) :
    x ∈ bucket (rmSet s k d) k' ↔ x ∈ bucket s k' ∧ ¬ (k' = k ∧ x ∈ d) :=
  rmSet_eq .. ▸ mem_bucket_rmWith rfl h mem_diff
theorem mem_bucket_rmEntry {s : Store} {k k' x v : Nat} (h : Inv s) :
    x ∈ bucket (rmEntry s k v) k' ↔ x ∈ bucket s k' ∧ ¬ (k' = k ∧ x = v) :=
  rmEntry_eq .. ▸ mem_bucket_rmWith (P := (· = v)) rfl h.1 ((nodup_bucket h.2).mem_erase_iff.trans and_comm)
theorem mem_bucket_delKey {s : Store} {k k' x : Nat} (h : (keys s).Nodup) :
    x ∈ bucket (delKey s k) k' ↔ x ∈ bucket s k' ∧ k' ≠ k := by
  rw [delKey_eq, mem_bucket_rmWith (P := fun _ => True) rfl h (by simp), and_true]
theorem mem_bucket_addEntry {s : Store} {k k' x v : Nat} :
    x ∈ bucket (addEntry s k v) k' ↔ x ∈ bucket s k' ∨ (k' = k ∧ x = v) :=
  addEntry_eq .. ▸ mem_bucket_addWith mem_insertNew

/-- the structural invariant holds after every history of calls -/
theorem inv_run (ops : List Op) {s : Store} (h : Inv s) : Inv (run s ops) :=
  List.foldlRecOn ops step h fun _ hb op _ => inv_step op hb

/-- after a history of guarded calls no key maps to an empty bucket -/
theorem noEmpty_run (ops : List Op) (hg : ∀ op ∈ ops, op.Guarded) {s : Store} (h : NoEmpty s) : NoEmpty (run s ops) :=
  List.foldlRecOn ops step h fun _ hb op hop => noEmpty_step op (hg op hop) hb

/-- **C11, register level.** After *any* history of `Guarded` calls (none is `add_data_set(key, ())`) on a fresh
    `KeyedStorage`, if every entry that was added has been removed again (no key reads a member), the dict itself is
    empty — no key is left behind. -/
theorem run_no_residue (ops : List Op) (hg : ∀ op ∈ ops, op.Guarded)
    (he : ∀ k, bucket (run [] ops) k = []) : run [] ops = [] :=
  no_residue (noEmpty_run ops hg noEmpty_nil) he

/-- without empty buckets a key exists exactly while it has a member (`Inv` is carried along, the argument does not use it) -/
theorem mem_keys_iff_bucket {s : Store} (h : NoEmpty s) (hi : Inv s) {k : Nat} : k ∈ keys s ↔ bucket s k ≠ [] := by
  induction s with
  | nil => simp [keys, bucket]
  | cons p s ih =>
    obtain ⟨a, b⟩ := p
    obtain ⟨hb, hs⟩ := noEmpty_cons.1 h
    rw [mem_keys_cons, bucket_cons]; split
    · next e => simp [e, hb]
    · next e => rw [ih hs (inv_cons.1 hi).2.2]; simp [Ne.symm e]

/-- unguarded too: `rm_data_set` never leaves the key it worked on with an empty bucket -/
theorem rmSet_key_clean {s : Store} {k : Nat} {d} (hi : (keys s).Nodup) :
    k ∉ keys (rmSet s k d) ∨ bucket (rmSet s k d) k ≠ [] :=
  rmSet_eq .. ▸ rmWith_key_clean hi

/-- add then remove the same data on a key that did not exist restores the store -/
theorem rmSet_addSet_fresh {s : Store} {k : Nat} {d} (h : k ∉ keys s) : rmSet (addSet s k d) k d = s := by
  induction s with
  | nil =>
    have : diff (union [] d) d = [] := by
      apply List.eq_nil_iff_forall_not_mem.2; intro x hx
      have := mem_diff.1 hx; simp [mem_union] at this
    simp [addSet, rmSet, this]
  | cons p s ih =>
    obtain ⟨a, b⟩ := p
    rw [mem_keys_cons, not_or] at h
    simp only [addSet, if_neg (Ne.symm h.1), rmSet]; rw [ih h.2]

/-- the abstract specification of a `KeyedStorage`: a plain relation key–member -/
def absStep (R : Nat → Nat → Prop) : Op → Nat → Nat → Prop
  | .addSet k d => fun k' v => R k' v ∨ (k' = k ∧ v ∈ d)
  | .rmSet k d => fun k' v => R k' v ∧ ¬ (k' = k ∧ v ∈ d)
  | .addEntry k x => fun k' v => R k' v ∨ (k' = k ∧ v = x)
  | .rmEntry k x => fun k' v => R k' v ∧ ¬ (k' = k ∧ v = x)
  | .delKey k => fun k' v => R k' v ∧ k' ≠ k

/-- **refinement**: every call history on a `KeyedStorage` reads like the relation obtained by adding and deleting
    pairs — nothing is kept that was removed, nothing is lost that was not (guarded or not) -/
theorem run_refines (ops : List Op) {s : Store} {R : Nat → Nat → Prop} (h : Inv s)
    (hr : ∀ k v, v ∈ bucket s k ↔ R k v) (k v : Nat) :
    v ∈ bucket (run s ops) k ↔ ops.foldl absStep R k v := by
  induction ops generalizing s R with
  | nil => exact hr k v
  | cons op ops ih =>
    refine ih (s := step s op) (R := absStep R op) (inv_step op h) (fun k' v' => ?_)
    cases op with
    | addSet a d => simp only [step, absStep]; rw [mem_bucket_addSet, hr]
    | rmSet a d => simp only [step, absStep]; rw [mem_bucket_rmSet h.1, hr]
    | addEntry a x => simp only [step, absStep]; rw [mem_bucket_addEntry, hr]
    | rmEntry a x => simp only [step, absStep]; rw [mem_bucket_rmEntry h, hr]
    | delKey a => simp only [step, absStep]; rw [mem_bucket_delKey h.1, hr]

/-! ### the excluded point, decided: what the guard is for (replayed on the real class by the harness) -/
/-- `add_data_set(key, ())` on a missing key creates an empty bucket … -/
theorem unguarded_add_creates_empty_bucket : addSet [] 7 [] = [(7, [])] := by decide
/-- … which any later `rm_data_set` on that key deletes again (how `projection.unapply_projector` cleans it). -/
theorem rm_drops_empty_bucket (d : List Nat) : rmSet [(7, [])] 7 d = [] := by simp [rmSet, diff]

/-- non-vacuity: a real history meets the hypotheses of `run_no_residue` and ends empty with several keys used -/
def demoOps : List Op := [.addSet 1 [4, 5], .addEntry 2 4, .addEntry 1 6, .rmEntry 1 5, .rmSet 1 [4, 6, 9], .rmEntry 2 4]
example : (∀ op ∈ demoOps, op.Guarded) ∧ run [] demoOps = [] ∧ run [] (demoOps.take 4) = [(1, [4, 6]), (2, [4])] := by
  refine ⟨?_, by decide, by decide⟩
  intro op hop; simp [demoOps] at hop; rcases hop with rfl | rfl | rfl | rfl | rfl | rfl <;> simp [Op.Guarded]

end Eos.Keyed
