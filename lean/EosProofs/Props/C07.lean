import EosProofs.Lemmas.ContainersReach
/-! # C07 — containers keep ownership and ordering invariants

Over the model `EosModel/Containers.lean`.  Racks are compared with the abstract "list with holes"
`slotAt l : position → item` (which item, if any, sits where); sets, `fit.skills` and item dicts with abstract
sets and key maps. -/
namespace Eos.C07
open Eos.Containers

/-- **The ownership invariant, for every history**: after any operation sequence from the empty world, an item is in a place
iff its back-reference names that place, no place holds an item twice, racks end in an item. -/
theorem ownership_inv (U : Univ) (ops : List Op) : OwnInv (run U World.empty ops) :=
  (run_inv U (Inv.empty U) ops).own

/-- An item belongs to at most one place ... -/
theorem at_most_one_place {U : Univ} {s : World} (h : Reachable U s) {i : Nat} {p q : Place}
    (hp : i ∈ contents s p) (hq : i ∈ contents s q) : p = q :=
  (reachable_inv h).own.backRef.unique hp hq

/-- ... and occurs there once. -/
theorem once_in_place {U : Univ} {s : World} (h : Reachable U s) (p : Place) : (contents s p).Nodup :=
  (reachable_inv h).own.nodup p

/-- Membership and the item's own view of its owner agree (`item._container` is `Place.ref` of it). -/
theorem owner_agrees {U : Univ} {s : World} (h : Reachable U s) (p : Place) (i : Nat) :
    i ∈ contents s p ↔ s.owner i = some p :=
  (reachable_inv h).own.mem_iff p i

/-- `item._fit` agrees with where the item is: the fit of the place, or — for charges and dict items —
whatever fit the parent item resolves to. -/
theorem fit_agrees {U : Univ} {s : World} (h : Reachable U s) {i : Nat} {p : Place} (hp : i ∈ contents s p)
    (n : Nat) : fitOf s (n + 1) i = match p.host with
      | .inl f => some f
      | .inr m => fitOf s n m := by
  have ho := (owner_agrees h p i).1 hp
  simp only [fitOf, ho]
  cases p.host <;> rfl

/-- An item that is nowhere resolves to no fit. -/
theorem unowned_no_fit {s : World} {i : Nat} (ho : s.owner i = none) (n : Nat) : fitOf s n i = none := by
  cases n <;> simp [fitOf, ho]

/-- No trailing holes, in every reachable world. -/
theorem no_trailing_holes {U : Univ} {s : World} (h : Reachable U s) (f r : Nat) : NoTrail (s.lists f r) :=
  (reachable_inv h).own.noTrail f r

/-- `len(rack)` is exactly one past the last occupied position. -/
theorem length_is_bound {U : Univ} {s : World} (h : Reachable U s) (f r : Nat) :
    (∀ j, rackLen s f r ≤ j → slotAt (s.lists f r) j = none) ∧
    (s.lists f r ≠ [] → slotAt (s.lists f r) (rackLen s f r - 1) ≠ none) :=
  ⟨fun _ hj => slotAt_of_length_le hj, noTrail_last_occupied (no_trailing_holes h f r)⟩

/-- `place(index, item)`: the position the index denotes (Python negative indexing) was empty and now
holds the item; every other position is as before. -/
theorem place_refines {U : Univ} {s s' : World} (h : Reachable U s) {f r : Nat} {index : Int} {v : Option Nat}
    (he : step U s (.place f r index v) = (.ok, s')) :
    ∃ i k, v = some i ∧ (0 ≤ index → k = index.toNat) ∧ (index < 0 → (k : Int) = (s.lists f r).length + index) ∧
      slotAt (s.lists f r) k = none ∧
      ∀ j, slotAt (s'.lists f r) j = if j = k then some i else slotAt (s.lists f r) j := by
  obtain ⟨i, k, hv, h0, hneg, hq⟩ := (listPlace_spec U s f r index v (no_trailing_holes h f r)).of_ok he
  exact ⟨i, k, hv, h0, hneg, hq.hole, hq.slotAt⟩

/-- `equip(item)` fills the first hole (the position just past the end when there is none). -/
theorem equip_refines {U : Univ} {s s' : World} (h : Reachable U s) {f r : Nat} {v : Option Nat}
    (he : step U s (.equip f r v) = (.ok, s')) :
    ∃ i k, v = some i ∧ (∀ j, j < k → slotAt (s.lists f r) j ≠ none) ∧ slotAt (s.lists f r) k = none ∧
      ∀ j, slotAt (s'.lists f r) j = if j = k then some i else slotAt (s.lists f r) j := by
  obtain ⟨i, k, hv, hmin, hq⟩ := (listEquip_spec U s f r v (no_trailing_holes h f r)).of_ok he
  exact ⟨i, k, hv, hmin, hq.hole, hq.slotAt⟩

/-- `append(item)` puts the item just past the end, i.e. after every item. -/
theorem append_refines {U : Univ} {s s' : World} {f r : Nat} {v : Option Nat}
    (he : step U s (.append f r v) = (.ok, s')) :
    ∃ i, v = some i ∧ ∀ j, slotAt (s'.lists f r) j = if j = rackLen s f r then some i else slotAt (s.lists f r) j := by
  obtain ⟨i, hv, hq⟩ := (listAppend_spec U s f r v).of_ok he
  exact ⟨i, hv, hq.slotAt⟩

/-- `insert(index, value)` (value an item or `None`): positions before the insertion point keep their
content, the point takes the value, everything after shifts up by one.  The point is `index`, or for a
negative index `max(len + index, 0)`. -/
theorem insert_refines {U : Univ} {s s' : World} (h : Reachable U s) {f r : Nat} {index : Int} {v : Option Nat}
    (he : step U s (.insert f r index v) = (.ok, s')) :
    ∃ k, (0 ≤ index → k = index.toNat) ∧ (index < 0 → k = ((s.lists f r).length + index).toNat) ∧
      ∀ j, slotAt (s'.lists f r) j =
        if j < k then slotAt (s.lists f r) j else if j = k then v else slotAt (s.lists f r) (j - 1) := by
  exact ⟨_, insPos_of_nonneg _, insPos_of_neg _,
    ((listInsert_spec U s f r index v (no_trailing_holes h f r)).of_ok he).slotAt⟩

/-- `free(index)`: that position becomes a hole, all other positions keep their content. -/
theorem freeIdx_refines {U : Univ} {s s' : World} {f r : Nat} {index : Int}
    (he : step U s (.freeIdx f r index) = (.ok, s')) :
    ∃ k, pyIndex (rackLen s f r) index = some k ∧
      ∀ j, slotAt (s'.lists f r) j = if j = k then none else slotAt (s.lists f r) j := by
  obtain ⟨k, hp, hk, rfl⟩ := (listAtIdx_spec _ (listFreeAt_ok s f r) index).of_ok he
  exact ⟨k, hp, listFreeAt_slotAt s f r k hk⟩

/-- `free(item)`: the first position holding the item becomes a hole, nothing else moves. -/
theorem freeVal_refines {U : Univ} {s s' : World} {f r : Nat} {v : Option Nat}
    (he : step U s (.freeVal f r v) = (.ok, s')) :
    ∃ k, (s.lists f r)[k]? = some v ∧ (∀ j, j < k → (s.lists f r)[j]? ≠ some v) ∧
      ∀ j, slotAt (s'.lists f r) j = if j = k then none else slotAt (s.lists f r) j := by
  obtain ⟨k, hk, hmin, rfl⟩ := (listAtVal_spec _ (listFreeAt_ok s f r) v).of_ok he
  exact ⟨k, hk, hmin, listFreeAt_slotAt s f r k (lt_length_of_getElem? hk)⟩

/-- `remove(index)`: positions before keep their content, positions after shift down by one. -/
theorem removeIdx_refines {U : Univ} {s s' : World} {f r : Nat} {index : Int}
    (he : step U s (.removeIdx f r index) = (.ok, s')) :
    ∃ k, pyIndex (rackLen s f r) index = some k ∧
      ∀ j, slotAt (s'.lists f r) j = if j < k then slotAt (s.lists f r) j else slotAt (s.lists f r) (j + 1) := by
  obtain ⟨k, hp, _, rfl⟩ := (listAtIdx_spec _ (listRemoveAt_ok s f r) index).of_ok he
  exact ⟨k, hp, listRemoveAt_slotAt s f r k⟩

/-- `remove(item or None)`: the same at the first position holding the value. -/
theorem removeVal_refines {U : Univ} {s s' : World} {f r : Nat} {v : Option Nat}
    (he : step U s (.removeVal f r v) = (.ok, s')) :
    ∃ k, (s.lists f r)[k]? = some v ∧ (∀ j, j < k → (s.lists f r)[j]? ≠ some v) ∧
      ∀ j, slotAt (s'.lists f r) j = if j < k then slotAt (s.lists f r) j else slotAt (s.lists f r) (j + 1) := by
  obtain ⟨k, hk, hmin, rfl⟩ := (listAtVal_spec _ (listRemoveAt_ok s f r) v).of_ok he
  exact ⟨k, hk, hmin, listRemoveAt_slotAt s f r k⟩

/-- `clear()` empties the rack and releases every item it held. -/
theorem clear_refines (U : Univ) (s : World) (f r : Nat) :
    (step U s (.clear f r)).1 = .ok ∧ (step U s (.clear f r)).2.lists f r = [] ∧
    ∀ i, i ∈ items (s.lists f r) → (step U s (.clear f r)).2.owner i = none := by
  refine ⟨rfl, by simp [step, listClear], fun i hi => ?_⟩
  simp [step, listClear, hi]

/-- Whatever the operation, on every rack the items that stay keep their relative order: the item sequence
before is a subsequence of the one after, or the other way round (one item enters or leaves, or the rack is
emptied). -/
theorem rack_order_kept {U : Univ} {s : World} (h : Reachable U s) (op : Op) (f r : Nat) :
    (items (s.lists f r)).Sublist (items ((step U s op).2.lists f r)) ∨
    (items ((step U s op).2.lists f r)).Sublist (items (s.lists f r)) := by
  by_cases hp : op.site = some (.rack f r)
  · exact ((step_rack_spec U (reachable_inv h).own.noTrail hp).snd .refl).sublist
  · rw [show (step U s op).2.lists f r = s.lists f r from step_sameAt U s op hp]
    exact Or.inl (List.Sublist.refl _)

/-- An operation leaves every rack it does not address exactly as it was. -/
theorem other_racks_untouched (U : Univ) (s : World) (op : Op) (f r : Nat) (hne : op.rackTarget ≠ some (f, r)) :
    (step U s op).2.lists f r = s.lists f r :=
  step_sameAt U s op (q := .rack f r) fun e => hne (by rw [Op.rackTarget_eq, e])

/-- `ItemSet.add`: on success the set gained exactly that item (which was in no place before). -/
theorem set_add_refines {U : Univ} {s s' : World} (h : Reachable U s) {f k : Nat} {v : Option Nat}
    (he : step U s (.setAdd f k v) = (.ok, s')) :
    ∃ i, v = some i ∧ s.owner i = none ∧ ∀ x, x ∈ s'.sets (.plain f k) ↔ x = i ∨ x ∈ s.sets (.plain f k) := by
  obtain ⟨i, hv, hq⟩ := (setAdd_spec U s (.plain f k) v).of_ok he
  refine ⟨i, hv, hq.unowned, fun x => ?_⟩
  simp [hq.eq (reachable_inv h).own]

/-- `ItemSet.remove`: on success the set lost exactly that item. -/
theorem set_remove_refines {U : Univ} {s s' : World} (h : Reachable U s) {f k : Nat} {v : Option Nat}
    (he : step U s (.setRemove f k v) = (.ok, s')) :
    ∃ i, v = some i ∧ s'.owner i = none ∧ ∀ x, x ∈ s'.sets (.plain f k) ↔ x ≠ i ∧ x ∈ s.sets (.plain f k) := by
  obtain ⟨i, hv, _, rfl⟩ := (setRemove_spec s (.plain f k) v).of_ok he
  have hnd : (s.sets (.plain f k)).Nodup := (reachable_inv h).own.nodup (.set (.plain f k))
  refine ⟨i, hv, by simp, fun x => ?_⟩
  simp [hnd.mem_erase_iff]

/-- `ItemSet.clear()` empties the set and releases every item it held. -/
theorem set_clear_refines (U : Univ) (s : World) (f k : Nat) :
    (step U s (.setClear f k)).2.sets (.plain f k) = [] ∧
    ∀ i, i ∈ s.sets (.plain f k) → (step U s (.setClear f k)).2.owner i = none := by
  refine ⟨by simp [step, setClear], fun i hi => ?_⟩
  simp [step, setClear, hi]

/-- One item per type id. -/
theorem typeUnique_one_per_type {U : Univ} {s : World} (h : Reachable U s) (f : Nat) {i j : Nat}
    (hi : i ∈ s.sets (.skills f)) (hj : j ∈ s.sets (.skills f)) (ht : U.tid i = U.tid j) : i = j := by
  have h1 := ((reachable_inv h).tu f).lookup hi
  have h2 := ((reachable_inv h).tu f).lookup hj
  rw [ht, h2] at h1
  exact (Option.some.inj h1).symm

/-- Key lookup agrees with the contents: `skills[t]` is the item of type `t` in the set, KeyError iff none. -/
theorem typeUnique_lookup {U : Univ} {s : World} (h : Reachable U s) (f t i : Nat) :
    keyedGet s (.skills f) t = some i ↔ i ∈ s.sets (.skills f) ∧ U.tid i = t := by
  obtain ⟨hk, hkey⟩ := (reachable_inv h).tu f
  constructor
  · intro hl
    exact ⟨hk.lookup_mem hl, (hkey _ (lookupKey_some_mem hl)).symm⟩
  · rintro ⟨hi, rfl⟩
    exact ((reachable_inv h).tu f).lookup hi

/-- `TypeUniqueItemSet.add` succeeds only for a type id not yet present, and then adds exactly the item. -/
theorem typeUnique_add_refines {U : Univ} {s s' : World} (h : Reachable U s) {f : Nat} {v : Option Nat}
    (he : step U s (.tuAdd f v) = (.ok, s')) :
    ∃ i, v = some i ∧ (∀ j, j ∈ s.sets (.skills f) → U.tid j ≠ U.tid i) ∧
      ∀ x, x ∈ s'.sets (.skills f) ↔ x = i ∨ x ∈ s.sets (.skills f) := by
  obtain ⟨i, hv, hl, hq⟩ := (tuAdd_spec U s f v).of_ok he
  refine ⟨i, hv, fun j hj ht => ?_, fun x => ?_⟩
  · have := ((reachable_inv h).tu f).lookup hj
    rw [ht, hl] at this; cases this
  · simp [hq.eq ((reachable_inv h).own.setKeyed _ _)]

/-- `TypeUniqueItemSet.remove(item)` takes exactly that item out, set and key map together. -/
theorem typeUnique_remove_refines {U : Univ} {s s' : World} (h : Reachable U s) {f : Nat} {v : Option Nat}
    (he : step U s (.tuRemove f v) = (.ok, s')) :
    ∃ i, v = some i ∧ (∀ x, x ∈ s'.sets (.skills f) ↔ x ≠ i ∧ x ∈ s.sets (.skills f)) ∧
      keyedGet s' (.skills f) (U.tid i) = none := by
  obtain ⟨i, hv, _, rfl⟩ := (tuRemove_spec ((reachable_inv h).tu f) v).of_ok he
  have hnd : (s.sets (.skills f)).Nodup := (reachable_inv h).own.nodup (.set (.skills f))
  refine ⟨i, hv, fun x => ?_, ?_⟩
  · simp [hnd.mem_erase_iff]
  · simp [keyedGet, lookupKey_delKey]

/-- Keys and values of an `ItemDict` describe its inner set: every value is in the set, every member is
stored under some key, and `len` counts both the same. -/
theorem dict_agrees {U : Univ} {s : World} (h : Reachable U s) (m : Nat) :
    (∀ k i, keyedGet s (.auto m) k = some i → i ∈ s.sets (.auto m)) ∧
    (∀ i, i ∈ s.sets (.auto m) → ∃ k, keyedGet s (.auto m) k = some i) ∧
    keyedLen s (.auto m) = setLen s (.auto m) :=
  have hk := (reachable_inv h).dict m
  ⟨fun _ _ hl => hk.lookup_mem hl, fun _ hi => hk.mem_lookup hi, hk.len⟩

/-- `d[key] = item` on success: the key was free, now maps to the item; other keys unchanged. -/
theorem dict_set_refines {U : Univ} {s s' : World} {m key : Nat} {v : Option Nat}
    (he : step U s (.dictSet m key v) = (.ok, s')) :
    ∃ i, v = some i ∧ keyedGet s (.auto m) key = none ∧
      ∀ k, keyedGet s' (.auto m) k = if key = k then some i else keyedGet s (.auto m) k := by
  obtain ⟨i, hv, hl, _, rfl⟩ := (keyedAdd_spec U s (.auto m) key v).of_ok he
  exact ⟨i, hv, hl, fun k => by simp [keyedGet, lookupKey_cons]⟩

/-- `del d[key]` on success: the key is gone, its item released; other keys unchanged. -/
theorem dict_del_refines {U : Univ} {s s' : World} {m key : Nat}
    (he : step U s (.dictDel m key) = (.ok, s')) :
    ∃ i, keyedGet s (.auto m) key = some i ∧ s'.owner i = none ∧
      ∀ k, keyedGet s' (.auto m) k = if k = key then none else keyedGet s (.auto m) k := by
  obtain ⟨i, hl, _, rfl⟩ := (dictDel_spec s m key).of_ok he
  exact ⟨i, hl, by simp, fun k => by simp [keyedGet, lookupKey_delKey]⟩

/-- `fit.ship = x`, `module.charge = x`, ...: on success the slot holds `x`, the previous item (if another)
is released, and no other descriptor changes. -/
theorem single_refines {U : Univ} {s s' : World} (h : Reachable U s) {c : SlotId} {v : Option Nat}
    (he : step U s (.assign c v) = (.ok, s')) :
    s'.slots c = v ∧ (∀ c', c' ≠ c → s'.slots c' = s.slots c') ∧
    (∀ o, s.slots c = some o → some o ≠ v → s'.owner o = none) := by
  have hs := fun c' (hc : c' ≠ c) => step_sameAt U s (.assign c v) (q := .slot c') (fun e => hc (by cases e; rfl))
  rw [he] at hs
  rcases (assign_spec U (reachable_inv h).own c v).of_ok he with ⟨hv, rfl⟩ | ⟨i, hv, _, rfl⟩
  · exact ⟨by simp [World.release, hv], hs, fun o ho _ => by simp [World.release, ho]⟩
  · refine ⟨by simp [hv], hs, fun o ho hne => ?_⟩
    have : o ≠ i := fun e => hne (by rw [hv, e])
    simp [World.release, ho, upd_other _ _ this]

/-- `len`, `in` and `items()` of a rack are the length, membership and hole-free sub-list of the same list;
`None` is never `in` the item view. -/
theorem rack_views_agree (s : World) (f r : Nat) :
    rackLen s f r = (s.lists f r).length ∧ rackItemsLen s f r = (items (s.lists f r)).length ∧
    (∀ v, rackContains s f r v = true ↔ v ∈ s.lists f r) ∧
    (∀ i, rackItemsContains s f r (some i) = true ↔ i ∈ items (s.lists f r)) ∧
    rackItemsContains s f r none = false ∧
    (∀ i, i ∈ items (s.lists f r) ↔ ∃ j, slotAt (s.lists f r) j = some i) := by
  refine ⟨rfl, rfl, fun v => by simp [rackContains], fun i => by simp [rackItemsContains, mem_items], rfl, fun i => ?_⟩
  rw [mem_items, List.mem_iff_getElem?]
  exact exists_congr fun j => Option.join_eq_some_iff.symm

/-- `len(set)` / `x in set` are length / membership of the duplicate-free storage; for `fit.skills` the key
map has as many entries as the set has items. -/
theorem set_views_agree {U : Univ} {s : World} (h : Reachable U s) (c : SetId) :
    setLen s c = (s.sets c).length ∧ (s.sets c).Nodup ∧ (∀ i, setContains s c i = true ↔ i ∈ s.sets c) ∧
    (∀ f, c = .skills f → keyedLen s c = setLen s c) := by
  refine ⟨rfl, (reachable_inv h).own.nodup (.set c), fun i => by simp [setContains], fun f hc => ?_⟩
  subst hc; exact ((reachable_inv h).tu f).keyed.len

/-! ### non-vacuity (kernel-evaluated on the model) -/

def exU : Univ := { cls := fun i => if i < 4 then .modHigh else if i < 6 then .skill else .charge, tid := fun i => i % 2 }
def exOps : List Op := [.place 0 0 3 (some 0), .insert 0 0 1 (some 1), .freeVal 0 0 (some 1), .equip 0 0 (some 2)]

example : Reachable exU (run exU World.empty exOps) := ⟨exOps, rfl⟩
example : (run exU World.empty exOps).lists 0 0 = [some 2, none, none, none, some 0] := by decide +kernel
example : (step exU (run exU World.empty exOps) (.removeIdx 0 0 (-1))).2.lists 0 0 = [some 2] := by decide +kernel
example : (step exU (run exU World.empty exOps) (.insert 0 0 (-7) (some 3))).2.lists 0 0 =
    [some 3, some 2, none, none, none, some 0] := by decide +kernel
example : fitOf (run exU World.empty (exOps ++ [.assign (.charge 2) (some 6)])) 4 6 = some 0 := by decide +kernel
example : (step exU (run exU World.empty [.tuAdd 0 (some 4)]) (.tuAdd 0 (some 5))).1 = .ok := by decide +kernel
example : keyedGet (run exU World.empty [.tuAdd 0 (some 4), .tuAdd 0 (some 5)]) (.skills 0) 1 = some 5 := by decide +kernel

end Eos.C07
