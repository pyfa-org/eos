import EosProofs.Lemmas.Machine
import EosProofs.Lemmas.GatherNF
/-! # C14 — switching the data source equals rebuilding under the new source

Machine level: the source setter unloads every item (all caches are cleared) and loads them again, i.e. a
mutation whose removal set is *everything*; such a step is always legal, lands in a coherent state for the
new configuration, and switching back restores every observable value.  Spec level (`EosModel.World`):
without a source, or for a type the source does not know, an item has no attributes and runs nothing. -/
namespace Eos.C14
open Eos.DepCache Eos.Machine Eos.World

variable {C N V : Type}

/-- Clearing every cache entry is a legal removal set for any configuration change (every clause of `Legal`
speaks of an entry that survives, and none does). -/
theorem clear_all_legal (W : C → Graph N V) (s : State C N V) (c' : C) :
    Legal W s (.change c' (fun _ => true)) := by
  refine ⟨?_, ?_, ?_⟩ <;> intro n _ h <;> cases h

/-- After a source switch — modelled as a change that clears every entry — everything readable is the
from-scratch value under the new source, whatever the state before. -/
theorem setSource_eq_rebuild (W : C → Graph N V) (s : State C N V) (c' : C) (n : N) :
    observe W (step W s (.change c' (fun _ => true))) n = spec (W c') n := by
  unfold observe step restrict; simp

/-- Switching away and back restores every previously observable value. -/
theorem switch_back_restores (W : C → Graph N V) (s : State C N V) (hg : Good W s) (c' : C) (n : N) :
    observe W (run W s [.change c' (fun _ => true), .change s.cfg (fun _ => true)]) n = observe W s n := by
  exact observe_run_congr W hg hg (steps := [_, _]) (steps' := [])
    ⟨clear_all_legal W _ _, clear_all_legal W _ _, trivial⟩ trivial rfl n

/-- Without a source nothing is loaded. -/
theorem no_source_unloaded (u : Universe) (cfg : Config) (h : cfg.hasSource = false) (x : Item) :
    loaded u cfg x = false ∧ runningEffects u cfg x = [] := by
  simp [loaded, itemType?, runningEffects, h]

/-- An item whose type the source does not know is unloaded and runs no effects. -/
theorem absent_type_unloaded (u : Universe) (cfg : Config) (x : Item) (h : type? u x.typeId = none) :
    loaded u cfg x = false ∧ runningEffects u cfg x = [] := by
  unfold loaded runningEffects itemType?
  cases cfg.hasSource <;> simp [h]

/-- An unloaded item reports no attributes (except a skill's level, which is an override of the item; the same
fact as `C02.absent_not_loaded`). -/
theorem unloaded_no_attrs (u : Universe) (cfg : Config) (immune limited : List Int) (pen : Nat → Rat)
    (rd : Reader) (x : Item) (am : AttrMeta) (h : loaded u cfg x = false)
    (hs : ¬ (x.kind = .skill ∧ am.id = 280)) :
    valueOf u cfg immune limited pen rd x am = .absent := by
  rw [valueOf_absent_iff, if_neg hs]
  intro tx ht
  simp [loaded, ht] at h

-- An equation between two proofs holds whatever they prove; what this shows is that the application
-- elaborates, i.e. that `({} : Config).hasSource = false` is `rfl`.
example : no_source_unloaded {} {} rfl ⟨1, .ship, 5, 1, 1, none, none, none, []⟩ = ⟨rfl, rfl⟩ := rfl

end Eos.C14
