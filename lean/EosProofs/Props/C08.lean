import EosProofs.Lemmas.Machine
import EosProofs.Lemmas.CalcBasic
/-! # C08 — results do not depend on notification order or hash iteration order

Two sources of order in the real code: (1) the order in which a fit delivers a message to its
subscribers and in which handlers walk their (hash-ordered) sets decides *in which order cache entries are
removed* and which entries the cascade visits first; (2) the order in which `get_modifications` yields the
gathered modifications.  (1): at machine level two histories that perform the same sequence of
configuration changes with *different* (legal) removal sets are observationally equal.  (2): the calculated
value is invariant under any permutation of the gathered modifications. -/
namespace Eos.C08
open Eos.DepCache Eos.Machine

variable {C N V : Type}

/-- Delivery order and set iteration order only influence *which* legal removal sets are used and in
which order reads happen; the observations agree.  (A case of `C01.incremental_eq_scratch`: only the last
configuration of `cfgTrace` matters.) -/
theorem obs_schedule_independent (W : C → Graph N V) (steps steps' : List (Step C N V)) (c : C)
    (hl : LegalRun W { cfg := c, cache := fun _ => none } steps)
    (hl' : LegalRun W { cfg := c, cache := fun _ => none } steps')
    (ht : cfgTrace steps = cfgTrace steps') (n : N) :
    observe W (run W { cfg := c, cache := fun _ => none } steps) n =
      observe W (run W { cfg := c, cache := fun _ => none } steps') n :=
  observe_run_congr W (good_init W c) (good_init W c) hl hl' (by rw [run_cfg, run_cfg, ht]) n

/-- The value of an attribute does not depend on the order in which its modifications are gathered
(iteration order of the affector-spec sets). -/
theorem gather_order_irrelevant (pen : Nat → Rat) (st hig : Bool) (base : Rat) (mods mods' : List Eos.Calc.Mod)
    (cap : Option Rat) (lim : Bool) (h : mods.Perm mods') :
    Eos.Calc.calculate pen st hig base mods cap lim = Eos.Calc.calculate pen st hig base mods' cap lim :=
  Eos.Calc.calculate_perm' pen st hig base h cap lim

end Eos.C08
