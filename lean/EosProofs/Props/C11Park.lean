import EosProofs.Lemmas.KeyedPark
/-! C11, register level: the parking of direct ship-domain affector specs (`AffReg`, `affection.py`).  After every
    history the register is well formed (`wf_run`: the specs sit exactly where the register looks for them, in sets,
    with no empty bucket), and when it holds no spec both stores are empty dicts (`park_no_residue`).  The four `held_*`
    theorems say, call by call, that what is held follows the registrations of specs and not the ships. -/
namespace Eos.Keyed

theorem wf_init : ({} : AffReg).WF := wf_park none .nil

/-- after every history both stores are dicts of sets without an empty bucket, and the specs are where the register
    looks for them (`AffReg.Shape`) -/
theorem wf_run (ops : List AffOp) {r : AffReg} (h : r.WF) : (r.run ops).WF :=
  List.foldlRecOn ops AffReg.step h fun _ hb op _ => wf_step op hb

/-- **no residue**: when the register holds no spec, both stores are empty dicts — whatever ships came and went -/
theorem park_no_residue (ops : List AffOp) (he : ∀ x, ¬ (({} : AffReg).run ops).held x) :
    (({} : AffReg).run ops).awaiting = [] ∧ (({} : AffReg).run ops).active = [] := by
  obtain ⟨b, -, e⟩ := (wf_run ops wf_init).eq_park
  rw [e] at he ⊢
  obtain rfl : b = [] := List.eq_nil_iff_forall_not_mem.2 fun x hx => he x ((held_park _ _ x).2 hx)
  cases (AffReg.run {} ops).ship <;> exact ⟨rfl, rfl⟩

/-- one `register_local_affector_spec`: the spec is held in addition -/
theorem held_regSpec {r : AffReg} (x y : Nat) : (r.regSpec x).held y ↔ r.held y ∨ y = x := by
  unfold AffReg.regSpec AffReg.held
  cases hs : r.ship <;> simp [addEntry_eq, mem_bucket_addWith mem_insertNew]
/-- one `unregister_local_affector_spec` on a well-formed register: that spec is not held afterwards, the others are -/
theorem held_unregSpec {r : AffReg} (h : r.WF) (x y : Nat) : (r.unregSpec x).held y ↔ r.held y ∧ y ≠ x := by
  obtain ⟨b, hb, e⟩ := h.eq_park
  rw [e, unregSpec_park, held_park, held_park, hb.mem_erase_iff, and_comm]
/-- one `register_affectee_item(ship)` on a well-formed register without ship: the same specs are held -/
theorem held_regShip {r : AffReg} (h : r.WF) (hn : r.ship = none) (s y : Nat) : (r.regShip s).held y ↔ r.held y := by
  obtain ⟨b, hb, e⟩ := h.eq_park
  rw [e, hn, regShip_park hb, held_park, held_park]
/-- one `unregister_affectee_item(ship)` on a well-formed register: the same specs are held -/
theorem held_unregShip {r : AffReg} (h : r.WF) (y : Nat) : r.unregShip.held y ↔ r.held y := by
  obtain ⟨b, hb, e⟩ := h.eq_park
  rw [e]
  cases r.ship with
  | none => exact Iff.rfl
  | some s => rw [unregShip_park hb, held_park, held_park]

example : (({} : AffReg).run [.regSpec 3, .regSpec 4, .regShip 7, .unregSpec 3, .unregShip, .regShip 8]).active = [(8, [4])] := by
  decide +kernel

end Eos.Keyed
