import EosModel.Codec
import EosModel.Loader
import EosModel.SourceMgr
import EosProofs.Lemmas.Codec
import EosProofs.Lemmas.SourceMgr
/-! # C16 — a damaged cache file is detected and never half-used

About `Eos.Loader.load parse file`: the memory of a `JsonCacheHandler`
constructed on a cache file, for **any** decoder `parse` of the file's bytes (`none` = reading,
bz2, utf-8 or json raised) and any file content whatsoever — truncated, flipped, zeroed or a valid
stream carrying unexpected JSON.  `full j` is the complete content of a well-structured tree `j`.
(One known difference to the code: the model's `int()` rejects every string, Python accepts numeric ones, so a tree
whose ids are numeric strings loads in the code and counts as badly structured here.)

What is *not* provable here is a fact about bz2/json themselves: that a strict prefix (or a flipped
copy) of a written stream never decodes to a *different* well-structured tree.  The clause that
depends on it is `crash_during_write_partial`; the fact is covered by enumeration only. -/
namespace Eos.C16
open Eos.Codec Eos.Codec.PV Eos.Loader

/-- Either the handler is empty, or the file decoded to a tree `j` that is well structured and the
    handler holds exactly the complete content of `j`.  There is no third outcome (no exception, no
    partly filled memory).  "Complete content" is `full j`: `__update_memory_cache` read as a partial function; the
    theorem is about the loader's clean-up around it, not a second account of what a tree contains. -/
theorem load_empty_or_complete {β : Type} (parse : β → Option PV) (file : Option β) :
    load parse file = Mem.empty ∨
      ∃ b j m, file = some b ∧ parse b = some j ∧ full j = some m ∧ load parse file = m := by
  rw [load_eq]
  cases file with
  | none => exact .inl rfl
  | some b =>
    rw [Option.bind_some]
    cases hp : parse b with
    | none => exact .inl rfl
    | some j =>
      rw [Option.bind_some]
      cases hm : full j with
      | none => exact .inl rfl
      | some m => exact .inr ⟨b, j, m, rfl, hp, hm, rfl⟩

/-- The empty handler has no fingerprint ... -/
theorem empty_no_fingerprint : Mem.empty.fingerprint = .pnone ∧ fpOf Mem.empty = none := ⟨rfl, rfl⟩

/-- ... so a handler that reports any fingerprint holds the complete content of its file. -/
theorem fingerprint_implies_complete {β : Type} (parse : β → Option PV) (file : Option β)
    (h : fpOf (load parse file) ≠ none) :
    ∃ b j, file = some b ∧ parse b = some j ∧ full j = some (load parse file) := by
  rcases load_empty_or_complete parse file with he | ⟨b, j, m, hf, hp, hfull, hl⟩
  · rw [he] at h; exact absurd rfl h
  · exact ⟨b, j, hf, hp, by rw [hl]; exact hfull⟩

/-- The fingerprint is assigned last: if filling the memory cache fails anywhere, the fingerprint is
    still the one from before (`None` in the constructor), whatever was stored so far. -/
theorem fingerprint_last (m : Mem) (j : PV) (h : (fill m j).2 = false) : (fill m j).1.fingerprint = m.fingerprint := by
  rw [fill_eq] at h ⊢; revert h
  cases full j with
  | none => exact fun _ => rfl
  | some r => exact fun h => nomatch h

/-- The complete content carries the tree's own fingerprint. -/
theorem complete_has_tree_fingerprint (j : PV) (m : Mem) (h : full j = some m) :
    j.get? "fingerprint" = some m.fingerprint := by
  obtain ⟨_, _, _, _, fp, -, -, -, -, h5, rfl⟩ := full_eq_some h
  exact h5

/-- Nothing is skipped: if the complete content exists, each of the four lists of the tree is there and every element
    of it is one its decompress-and-store step accepts from *some* memory (so one element no memory accepts fails the
    whole load; the memory it actually met is not recorded here). -/
theorem complete_every_element_stored (j : PV) (m : Mem) (h : full j = some m) :
    ∀ ks ∈ [("effects", stepEffect), ("types", stepType), ("attrs", stepAttr), ("buff_templates", stepBuff)],
      ∃ ds, (j.get? ks.1).bind iter? = some ds ∧ ∀ d ∈ ds, ∃ m₀, (ks.2 m₀ d).isSome := by
  obtain ⟨m1, m2, m3, m4, _, h1, h2, h3, h4, -, -⟩ := full_eq_some h
  intro ks hks
  simp only [List.mem_cons, List.not_mem_nil, or_false] at hks
  rcases hks with rfl | rfl | rfl | rfl
  · exact loopO_all_steps j _ _ _ _ h1
  · exact loopO_all_steps j _ _ _ _ h2
  · exact loopO_all_steps j _ _ _ _ h3
  · exact loopO_all_steps j _ _ _ _ h4

/-- Well-formed JSON of the wrong structure (missing key, wrong container, short tuple, effect id a
    type mentions but the effect list lacks, unhashable id, ...) leaves the handler empty. -/
theorem wrong_structure_empty {β : Type} (parse : β → Option PV) (b : β) (j : PV) (hp : parse b = some j)
    (hw : full j = none) : load parse (some b) = Mem.empty := by
  rw [load_eq, Option.bind_some, hp, Option.bind_some, hw]; rfl

/-- An undecodable file (bad bz2 stream, bad utf-8, bad JSON, read error) leaves the handler empty. -/
theorem undecodable_empty {β : Type} (parse : β → Option PV) (b : β) (hp : parse b = none) :
    load parse (some b) = Mem.empty := by rw [load_eq, Option.bind_some, hp]; rfl

/-- No file: empty. -/
theorem absent_empty {β : Type} (parse : β → Option PV) : load parse none = Mem.empty := rfl

/-- An empty (or fingerprint-less) handler makes `SourceManager.add` rebuild, whatever the data
    version is — so a damaged cache is regenerated. -/
theorem empty_cache_rebuilds {γ : Type} (ev : String) (w : SourceMgr.World γ) (a : String) (v : Option String) (o : γ)
    (c : Nat) (mk : Bool) (hfresh : a ∉ w.aliases) (hfp : (w.handlers c).fp = fpOf Mem.empty) :
    (SourceMgr.step ev w (.add a v o c mk)).2 = .added true := by
  rw [SourceMgr.step_add_fresh ev hfresh, hfp]
  cases v <;> simp [SourceMgr.needRebuild, fpOf, Mem.empty]

/-- **partial**: under `hprefix` (a strict prefix of a written stream does not decode — enumerated on
    the real libraries for every prefix length of several files, not proved), a crash at any byte
    gives an empty handler, or the file is the completely written one and decodes to the tree (that the handler then
    holds the complete data is `C15.memory_after_update_eq_load`, not said here). -/
theorem crash_during_write_partial {α : Type} (parse : List α → Option PV) (ser : PV → List α)
    (hjson : ∀ j, parse (ser j) = some j.norm)
    (hprefix : ∀ j k, k < (ser j).length → parse ((ser j).take k) = none) (j : PV) (k : Nat) :
    load parse (some (crashAt k (ser j))) = Mem.empty ∨
      (crashAt k (ser j) = ser j ∧ parse (crashAt k (ser j)) = some j.norm) := by
  by_cases hk : k < (ser j).length
  · left; exact undecodable_empty parse _ (hprefix j k hk)
  · right
    have : crashAt k (ser j) = ser j := List.take_of_length_le (Nat.le_of_not_lt hk)
    exact ⟨this, by rw [this]; exact hjson j⟩

/-- A well-structured tree loads completely ... -/
example : (load (β := PV) some (some (.dict [("types", .list []), ("attrs", .list [.list [.int 1, .pnone, .real 0, .bool true, .bool true]]),
    ("effects", .list []), ("buff_templates", .list []), ("fingerprint", .str "v_1")]))).attrs.length = 1 := by decide +kernel
/-- ... a tree whose type mentions an effect the effect list lacks loads as empty (all four storages, no fingerprint) ... -/
example : fpOf (load (β := PV) some (some (.dict [("types", .list [.list [.int 1, .pnone, .pnone, .list [], .list [.int 9], .pnone, .list [], .list []]]),
    ("attrs", .list [.list [.int 1, .pnone, .real 0, .bool true, .bool true]]),
    ("effects", .list []), ("buff_templates", .list []), ("fingerprint", .str "v_1")]))) = none := by decide +kernel
/-- ... and so does one with a missing key, although its attribute list had already been stored. -/
example : (load (β := PV) some (some (.dict [("types", .list []), ("attrs", .list [.list [.int 1, .pnone, .real 0, .bool true, .bool true]]),
    ("effects", .list []), ("fingerprint", .str "v_1")]))).attrs.length = 0 := by decide +kernel

end Eos.C16
