import EosProofs.Props.C01World
import EosProofs.Lemmas.IterOrder
/-! # C08, world / message level — observable results do not depend on iteration order

At message level the calculation service is the *only* service of the model, so "the order in which a fit notifies
its services of a message" has no counterpart between services.  What remains of the property is the iteration order
of the sets the calculation and the handlers walk through:

1. The item set, the effect list of a type, the modifier list of an effect — three of the lists `World.gather`
   iterates over.  (In pyfa-org/eos the affectors of an attribute are collected from `set`s — the items of a fit,
   `ItemSet`; the buckets of the affection register; the running effect ids of an item — whose iteration order is not
   fixed between runs, and from the modifier tuple of an effect, whose order comes from the data.  The order of
   `cfg.fits`, `u.buffs` and of the universe's own lists is kept fixed here.)  At message level (`Micro.gatherD`) only
   the order of the item list is varied.  Hypotheses: `rankWF u` (acyclic attribute dependencies) and unique item ids.
   Without `rankWF` the statement is false as an equality of `Val`s: the gathering stops at the first error, so one
   order can report `divZero` where the other reports the rank-violation marker `notWF` (`valueOf_items_perm` states
   exactly this alternative).
2. The direct invalidation list and the reverse-dependency enumeration of the cascade — the sets the handlers of
   `EffectsStarted/Stopped`, `EffectApplied/Unapplied` and `_revise_regular_attr_dependents` walk through.  The cascade
   removes exactly the cached entries reached from the listed nodes (`Cascade.Removes`), a set that does not mention
   any order, and two removals of the same set from the same cache are equal (`Removes.ext`).

Not stated here: the order of the messages themselves (`C13World.setup_order_irrelevant_world`,
`C09World.reads_reorder_world`). -/
namespace Eos.C08World
open Eos.World Eos.Micro Eos.Micro.L Eos.DepCache Eos.Machine Eos.C01World

variable {β ε : Type} {u : Universe} {cfg cfg' : Config} {immune limited : List Int} {pen : Nat → Rat}

theorem RelOut.symm {r r' : Except ε (List β)} (h : RelOut r r') : RelOut r' r := by
  rcases h with ⟨l, l', h1, h2, hp⟩ | ⟨w, w', h1, h2⟩
  · exact Or.inl ⟨l', l, h2, h1, hp.symm⟩
  · exact Or.inr ⟨w', w, h2, h1⟩

theorem RelOut.trans {r r' r'' : Except ε (List β)} (h : RelOut r r') (h' : RelOut r' r'') : RelOut r r'' := by
  rcases h with ⟨l, l', h1, h2, hp⟩ | ⟨w, w', h1, h2⟩
  · rcases h' with ⟨m, m', k1, k2, kp⟩ | ⟨v, v', k1, k2⟩
    · rw [h2] at k1; cases k1
      exact Or.inl ⟨l, m', h1, k2, hp.trans kp⟩
    · rw [h2] at k1; cases k1
  · rcases h' with ⟨m, m', k1, k2, kp⟩ | ⟨v, v', k1, k2⟩
    · rw [h2] at k1; cases k1
    · exact Or.inr ⟨w, v', h1, k2⟩

theorem ItemsPerm.symm (E : ItemsPerm cfg cfg') : ItemsPerm cfg' cfg := ⟨E.items.symm, E.fits.symm, E.source.symm⟩

theorem valueOf_items_perm_eq (E : ItemsPerm cfg cfg') (hU : UniqueIds cfg) (immune limited : List Int)
    (pen : Nat → Rat) (rd : Reader) (x : Item) (am : AttrMeta)
    (h1 : valueOf u cfg immune limited pen rd x am ≠ .notWF)
    (h2 : valueOf u cfg' immune limited pen rd x am ≠ .notWF) :
    valueOf u cfg immune limited pen rd x am = valueOf u cfg' immune limited pen rd x am :=
  (valueOf_items_perm E hU immune limited pen rd x am).eq_of_ne_notWF h1 h2

/-- **Observable results do not depend on the iteration order of the item set.**  Two configurations that
differ only in the order in which their items are listed (`ItemsPerm`: the item lists are permutations of each
other, same fits, same source) have from-scratch tables `World.evalAll` that answer every public read alike:
for every item `x` (configured or not) and every attribute id `a`.  The two tables are *different lists*
(their rows are in different orders, and every gathered list of modifications is permuted); the reads agree.
Why `hwf` and `hU`: see the head of the file. -/
theorem item_order_irrelevant_world (hwf : rankWF u = true) {cfg cfg' : Config} (E : ItemsPerm cfg cfg')
    (hU : UniqueIds cfg) (x : Item) (a : Int) :
    World.read (evalAll u cfg immune limited pen) x a = World.read (evalAll u cfg' immune limited pen) x a := by
  unfold World.read
  rw [evalAll_get_perm hwf E hU]

/-- **Message level.**  Two legal message histories (any initial registers, empty caches) that end in settled
states whose configurations differ only in the order of their item lists are indistinguishable by reads: at
every configured item and attribute with metadata both observe the same value, the entry of the from-scratch
table of either configuration.  (For equal final configurations this is `C13World.setup_order_irrelevant_world`;
here the *specification's* iteration order over the item set is varied as well.)  Hypotheses as in
`C01World.world_read_eq_table_buff`, per history. -/
theorem obs_item_order_irrelevant_world (hwf : rankWF u = true) (hun : UniqueAttrs u) (hR : ResistWF u)
    (hnp : ∀ e ∈ u.effects, e.isBuff = true → e.category ≠ 2)
    {cfg cfg' : Config} {d d' : Dyn}
    (hU : UniqueIds cfg) (hC : ChargeWF cfg) (hT : TgtKinds cfg d)
    (hU' : UniqueIds cfg') (hC' : ChargeWF cfg') (hT' : TgtKinds cfg' d')
    (steps steps' : List WStep)
    (ok : WRunOKE u immune limited pen (worldGraph u immune limited pen hwf) ⟨cfg, d, fun _ => none⟩ steps)
    (ok' : WRunOKE u immune limited pen (worldGraph u immune limited pen hwf) ⟨cfg', d', fun _ => none⟩ steps')
    (sF sF' : MState)
    (hF : wrun u (worldGraph u immune limited pen hwf) ⟨cfg, d, fun _ => none⟩ steps = sF)
    (hF' : wrun u (worldGraph u immune limited pen hwf) ⟨cfg', d', fun _ => none⟩ steps' = sF')
    (E : ItemsPerm sF.cfg sF'.cfg)
    (hset : BuffSettled u sF.cfg immune limited pen sF.dyn)
    (hset' : BuffSettled u sF'.cfg immune limited pen sF'.dyn)
    (hnz : ∀ entry ∈ evalAll u sF.cfg immune limited pen, entry.2 ≠ .divZero)
    {x : Item} (hx : x ∈ sF.cfg.items) {am : AttrMeta} (ham : am ∈ u.attrs) :
    observe (worldGraph u immune limited pen hwf) (toState sF) (x.id, am.id) =
      observe (worldGraph u immune limited pen hwf) (toState sF') (x.id, am.id) ∧
    observe (worldGraph u immune limited pen hwf) (toState sF) (x.id, am.id) =
      valToOption (World.read (evalAll u sF.cfg immune limited pen) x am.id) := by
  have hUF : UniqueIds sF.cfg := hF ▸ (world_inv_run hwf hun hR hU hC hT steps ok).uniq
  have h1 := world_read_eq_table_buff hwf hun hR hnp hU hC hT steps ok sF hF hset hnz hx ham
  have h2 := world_read_eq_table_buff hwf hun hR hnp hU' hC' hT' steps' ok' sF' hF' hset'
    (noDivZero_perm hwf hun E hUF hnz) (E.items.mem_iff.2 hx) ham
  exact ⟨by rw [h1, h2, item_order_irrelevant_world hwf E hUF], h1⟩

/-! `ordU`: a ship (attribute 37 = 100) and two low-slot module types whose passive effect 1000 multiplies attribute
37 of the ship of the fit by the module's attribute 20 (3/2 for type 2, 2 for type 3).  `ordCfg` lists ship,
module 2, module 3; `ordCfgR` lists them in reverse.  The gathered modifications come in different orders
(values `[3/2, 2]` and `[2, 3/2]`), the tables are different lists, every read agrees: 300. -/

def ordU : Universe :=
  { attrs := [⟨20, none, none, true, true⟩, ⟨37, none, none, true, true⟩],
    effects := [⟨1000, 0, none, none, false, [⟨1, 3, none, 37, 6, 1, none, 20⟩]⟩],
    types := [⟨1, none, some 6, none, [(37, 100)], [], []⟩,
              ⟨2, none, some 7, none, [(20, 3/2)], [1000], []⟩,
              ⟨3, none, some 7, none, [(20, 2)], [1000], []⟩] }
def ordShip : Item := ⟨1, .ship, 1, 0, 1, none, none, none, []⟩
def ordModA : Item := ⟨2, .moduleLow, 2, 0, 1, none, none, none, []⟩
def ordModB : Item := ⟨3, .moduleLow, 3, 0, 1, none, none, none, []⟩
def ordCfg : Config := { hasSource := true, fits := [⟨0, some 1, none, none⟩], items := [ordShip, ordModA, ordModB] }
def ordCfgR : Config := { hasSource := true, fits := [⟨0, some 1, none, none⟩], items := [ordModB, ordModA, ordShip] }
def ordRd : Reader := fun y a => if a == 20 then (if y.id == 2 then .ok (3/2) else .ok 2) else .absent

theorem ord_perm : ItemsPerm ordCfg ordCfgR := ⟨List.reverse_perm [ordShip, ordModA, ordModB], rfl, rfl⟩
theorem ord_uniq : UniqueIds ordCfg := by decide
theorem ord_gather :
    (gather ordU ordCfg specImmune ordRd ordShip ⟨1, none, some 6, none, [(37, 100)], [], []⟩ 37).toOption.map
      (·.map (·.value)) = some [3/2, 2] ∧
    (gather ordU ordCfgR specImmune ordRd ordShip ⟨1, none, some 6, none, [(37, 100)], [], []⟩ 37).toOption.map
      (·.map (·.value)) = some [2, 3/2] := by
  decide +kernel

example : rankWF ordU = true ∧
    (gather ordU ordCfg specImmune ordRd ordShip ⟨1, none, some 6, none, [(37, 100)], [], []⟩ 37).toOption.map
      (·.map (·.value)) = some [3/2, 2] ∧
    (gather ordU ordCfgR specImmune ordRd ordShip ⟨1, none, some 6, none, [(37, 100)], [], []⟩ 37).toOption.map
      (·.map (·.value)) = some [2, 3/2] ∧
    evalAll ordU ordCfg specImmune specLimited (fun _ => 1) ≠ evalAll ordU ordCfgR specImmune specLimited (fun _ => 1) :=
  ⟨by decide, ord_gather.1, ord_gather.2, by decide +kernel⟩

example :
    World.read (evalAll ordU ordCfg specImmune specLimited (fun _ => 1)) ordShip 37 =
      World.read (evalAll ordU ordCfgR specImmune specLimited (fun _ => 1)) ordShip 37 ∧
    World.read (evalAll ordU ordCfgR specImmune specLimited (fun _ => 1)) ordShip 37 = .ok 300 :=
  ⟨item_order_irrelevant_world (by decide) ord_perm ord_uniq ordShip 37, by decide +kernel⟩

example : ∃ l l', gather ordU ordCfg specImmune ordRd ordShip ⟨1, none, some 6, none, [(37, 100)], [], []⟩ 37 = .ok l ∧
    gather ordU ordCfgR specImmune ordRd ordShip ⟨1, none, some 6, none, [(37, 100)], [], []⟩ 37 = .ok l' ∧
    l.Perm l' ∧ l ≠ l' := by
  obtain ⟨e1, e2⟩ := ord_gather
  rcases relOut_gather_items (u := ordU) ord_perm ord_uniq specImmune ordRd ordShip
    ⟨1, none, some 6, none, [(37, 100)], [], []⟩ 37 with ⟨l, l', h1, h2, hp⟩ | ⟨w, _, h1, _⟩
  · refine ⟨l, l', h1, h2, hp, fun hll => ?_⟩
    rw [h1] at e1; rw [h2, ← hll, e1] at e2
    exact absurd e2 (by decide +kernel)
  · rw [h1] at e1; cases e1

/-- **The order of the modifier list of an effect is irrelevant**: for any re-listing `σ` of the modifiers of
the universe's effects (`hσ`: a permutation, effect by effect) the from-scratch tables answer every read alike. -/
theorem modifier_order_irrelevant_world (hwf : rankWF u = true) {σ : Effect → List Modifier}
    (hσ : ∀ e ∈ u.effects, (σ e).Perm e.mods) (hU : UniqueIds cfg) (x : Item) (a : Int) :
    World.read (evalAll u cfg immune limited pen) x a =
      World.read (evalAll (reorderMods σ u) cfg immune limited pen) x a := by
  unfold World.read
  rw [evalAll_get_rel hwf (rankWF_reorderMods hσ hwf) rfl
    (ItemsPerm.refl cfg) hU fun rd y am => relVal_valueOf id rd y am
      (by rw [Option.map_id]; rfl) (fun _ => rfl) fun tx => relOut_gather_reorderMods hσ immune rd y tx am.id]

/-- **The order of the effect list of an item type is irrelevant**: for any re-listing `τ` of the effect ids of
the universe's item types (`hτ`: a permutation, type by type) the from-scratch tables answer every read alike. -/
theorem effect_order_irrelevant_world (hwf : rankWF u = true) {τ : ItemType → List Int}
    (hτ : ∀ ty ∈ u.types, (τ ty).Perm ty.effects) (hU : UniqueIds cfg) (x : Item) (a : Int) :
    World.read (evalAll u cfg immune limited pen) x a =
      World.read (evalAll (reorderEffs τ u) cfg immune limited pen) x a := by
  unfold World.read
  rw [evalAll_get_rel hwf (rankWF_reorderEffs τ hwf) rfl
    (ItemsPerm.refl cfg) hU fun rd y am => relVal_valueOf (reEffs τ) rd y am
      (itemType?_reorderEffs τ y) (fun _ => rfl) fun tx => relOut_gather_reorderEffs hτ immune rd y tx am.id]

/-- **The three list orders at once.**  The items of the configuration listed in another order (`E`), the
modifiers of every effect re-listed (`σ`), the effect ids of every item type re-listed (`τ`): the from-scratch
tables answer every public read alike. -/
theorem iteration_order_irrelevant_world (hwf : rankWF u = true) {cfg' : Config} (E : ItemsPerm cfg cfg')
    (hU : UniqueIds cfg) {σ : Effect → List Modifier} (hσ : ∀ e ∈ u.effects, (σ e).Perm e.mods)
    {τ : ItemType → List Int} (hτ : ∀ ty ∈ u.types, (τ ty).Perm ty.effects) (x : Item) (a : Int) :
    World.read (evalAll u cfg immune limited pen) x a =
      World.read (evalAll (reorderEffs τ (reorderMods σ u)) cfg' immune limited pen) x a := by
  rw [item_order_irrelevant_world hwf E hU, modifier_order_irrelevant_world hwf hσ (E.uniqueIds hU)]
  exact effect_order_irrelevant_world (rankWF_reorderMods hσ hwf) (u := reorderMods σ u) hτ (E.uniqueIds hU) x a

/-! `settleURev`, `settleCfgRev`: the universe `settleU` of `Lemmas/MicroSettle.lean` (a module with two running projectable effects, each with a local and a
projected modifier on the ship's attribute 37) with the modifier list of both effects, the effect list of the
module type and the item list of the configuration reversed: the modifications are gathered in the order of
operators 5, 7, 4, 6 instead of 4, 6, 5, 7, the tables list their rows differently, the reads agree: 225. -/

def settleURev : Universe :=
  reorderEffs (fun ty => ty.effects.reverse) (reorderMods (fun e => e.mods.reverse) settleU)
def settleCfgRev : Config := { settleCfg with items := settleCfg.items.reverse }

example :
    (gather settleU settleCfg specImmune settleRd settleShip
      ⟨1, none, some 6, none, [(37, 100)], [], []⟩ 37).toOption.map (·.map (·.op)) = some [4, 6, 5, 7] ∧
    (gather settleURev settleCfgRev specImmune settleRd settleShip
      ⟨1, none, some 6, none, [(37, 100)], [], []⟩ 37).toOption.map (·.map (·.op)) = some [5, 7, 4, 6] ∧
    evalAll settleU settleCfg specImmune specLimited (fun _ => 1) ≠
      evalAll settleURev settleCfgRev specImmune specLimited (fun _ => 1) := by
  decide +kernel

example :
    World.read (evalAll settleU settleCfg specImmune specLimited (fun _ => 1)) settleShip 37 =
      World.read (evalAll settleURev settleCfgRev specImmune specLimited (fun _ => 1)) settleShip 37 ∧
    World.read (evalAll settleURev settleCfgRev specImmune specLimited (fun _ => 1)) settleShip 37 = .ok 225 :=
  ⟨iteration_order_irrelevant_world (u := settleU) (cfg := settleCfg) (cfg' := settleCfgRev) settle_rank
    ⟨List.reverse_perm settleCfg.items, rfl, rfl⟩
    (by decide) (fun e _ => List.reverse_perm e.mods) (fun ty _ => List.reverse_perm ty.effects)
    settleShip 37, by decide +kernel⟩

/-- **The cache after a message does not depend on the order of the direct invalidation list** (nor on
repetitions in it): `visitAll` — `_force_recalc` of every listed node plus the `AttrsValueChanged` cascade, with the
model's fuel — over two lists with the same members yields the same cache.  `hK`: every cached node has attribute
metadata (true of every coherent cache, `hasMeta_of_cached`). -/
theorem cascade_order_irrelevant_world (cfg : Config) (d : Dyn) (hwf : rankWF u = true) (hun : UniqueAttrs u)
    (K : Micro.Cache) (hK : ∀ x, K x ≠ none → HasMeta u x) {direct direct' : List Node}
    (hd : ∀ n, n ∈ direct ↔ n ∈ direct') :
    visitAll u cfg d (fuelOf u) K direct = visitAll u cfg d (fuelOf u) K direct' :=
  (visitAll_removes u cfg d hwf hun (Nat.le_succ _) K hK direct).ext
    (visitAll_removes u cfg d hwf hun (Nat.le_succ _) K hK direct') (fun _ _ => Iff.rfl) hd

/-- The same for the order in which the reverse dependencies are enumerated inside the cascade: any enumerator
`rdeps'` with the same members as `Micro.rdeps` (e.g. the handlers walking their hash-ordered sets differently)
drives the generic cascade to the same cache. -/
theorem cascade_rdeps_order_irrelevant_world (cfg : Config) (d : Dyn) (hwf : rankWF u = true) (hun : UniqueAttrs u)
    (K : Micro.Cache) (hK : ∀ x, K x ≠ none → HasMeta u x) (rdeps' : Node → List Node)
    (hrd : ∀ m x, x ∈ rdeps u cfg d m ↔ x ∈ rdeps' m) {direct direct' : List Node}
    (hd : ∀ n, n ∈ direct ↔ n ∈ direct') :
    visitAll u cfg d (fuelOf u) K direct =
      direct'.foldl (fun K t => Cascade.visit rdeps' (fuelOf u) K t) K :=
  (visitAll_removes u cfg d hwf hun (Nat.le_succ _) K hK direct).ext
    (Cascade.fold_removes rdeps' (rankOf u) u.attrs.length (HasMeta u)
      (fun m x hm hx h => rdeps_rank hwf hun hm hx ((hrd m x).2 h)) (fun _ hx => rankOf_lt_of_meta hx)
      (fuelOf u) (Nat.le_succ _) K hK direct') hrd hd

/-- Message level: the four handlers that force-recalculate a direct list (`EffectsStarted`, `EffectsStopped`,
`EffectApplied`, `EffectUnapplied`) leave the cache `visitAll … direct`; by `cascade_order_irrelevant_world` any other
order of `direct` gives the cache of `mstep`.  Stated for `EffectsStarted`; the other three are the same line. -/
theorem mstep_start_direct_order (hwf : rankWF u = true) (hun : UniqueAttrs u) (s : MState)
    (hK : ∀ x, s.cache x ≠ none → HasMeta u x) (i : Nat) (es : List Int) {direct' : List Node}
    (hd : direct'.Perm (directOf u s.cfg (setOn s.dyn i es true)
      (localSpecsOf u s.cfg (setOn s.dyn i es true) i es))) :
    (mstep u s (.start i es)).cache =
      visitAll u s.cfg (setOn s.dyn i es true) (fuelOf u) s.cache direct' :=
  cascade_order_irrelevant_world s.cfg _ hwf hun s.cache hK fun _ => (hd.mem_iff).symm

/-! The settled two-item world `settleU`, `settleCfg` of `Lemmas/MicroSettle.lean` with the ship's attribute 37 and the module's attribute 20
cached (a table for the cache): force-recalculating `[(2, 20), (1, 37)]` and `[(1, 37), (2, 20), (1, 37)]` gives the
same cache — in the first order `(1, 37)` is already gone (removed by the cascade from `(2, 20)`) when its turn
comes, in the second it is dropped first —, and `(1, 37)` is not cached afterwards. -/

example :
    visitAll settleU settleCfg (derivedDyn settleU settleCfg) (fuelOf settleU)
        (tblFun [((2, 20), (3/2 : Rat)), ((1, 37), 225)]) [(2, 20), (1, 37)] =
      visitAll settleU settleCfg (derivedDyn settleU settleCfg) (fuelOf settleU)
        (tblFun [((2, 20), (3/2 : Rat)), ((1, 37), 225)]) [(1, 37), (2, 20), (1, 37)] ∧
    visitAll settleU settleCfg (derivedDyn settleU settleCfg) (fuelOf settleU)
        (tblFun [((2, 20), (3/2 : Rat)), ((1, 37), 225)]) [(2, 20), (1, 37)] (1, 37) = none ∧
    (1, 37) ∈ rdeps settleU settleCfg (derivedDyn settleU settleCfg) (2, 20) := by
  have hK : ∀ x, tblFun [((2, 20), (3/2 : Rat)), ((1, 37), 225)] x ≠ none → HasMeta settleU x := by
    intro x hx
    obtain ⟨p, hp, rfl⟩ := tblFun_ne_none_iff.1 hx
    simp only [List.mem_cons, List.not_mem_nil, or_false] at hp
    rcases hp with rfl | rfl <;> (unfold HasMeta; decide)
  refine ⟨cascade_order_irrelevant_world settleCfg _ settle_rank settle_wf.1 _ hK (fun n => by simp; tauto), ?_,
    by decide +kernel⟩
  exact (cascade_closed settleCfg _ settle_rank settle_wf.1 _ hK _).2.1 (1, 37) (by decide)

/-! `fleetCfgRev` is the fleet `fleetCfg` of `C01World` with the item list `[ship 3, module 2, ship 1]`.  The messages of `fleetHist` are a legal
history from the corresponding start state as well and end `BuffSettled`; the theorem applies to the pair
(`fleetHist` on `fleetCfg`, `fleetHist` on `fleetCfgRev`): both observe 150 at ship 3's attribute 37. -/

def fleetCfgRev : Config := { fleetCfg with items := [fleetShip3, fleetMod, fleetShip1] }
def fleetD0Rev : Dyn :=
  { loaded := (derivedDyn fleetU fleetCfgRev).loaded, on := fun _ _ => false, tgts := fun _ _ => [] }
def fleetS0Rev : MState := ⟨fleetCfgRev, fleetD0Rev, fun _ => none⟩

theorem fleetRev_perm : ItemsPerm fleetCfg fleetCfgRev :=
  ⟨List.reverse_perm [fleetShip1, fleetMod, fleetShip3], rfl, rfl⟩

theorem fleetRev_wf : UniqueIds fleetCfgRev ∧ ChargeWF fleetCfgRev ∧ TgtKinds fleetCfgRev fleetD0Rev :=
  ⟨by decide, chargeWF_of_all (by decide), tgtKinds_of_nil fun _ _ => rfl⟩

theorem fleetRev_runOK : WRunOKE fleetU specImmune specLimited fleetPen fleetW fleetS0Rev fleetHist :=
  wrunOKE_of_errorFree _ _ _ (by unfold ErrorFree; decide +kernel)
    ⟨fun _ _ => rfl, trivial, rfl, solsys_of_all (by decide),
      legal_read_of_closed _ _ [(3, 37), (2, 2469)] (by simp) (by decide +kernel), trivial⟩

theorem fleetRev_item1 : item? fleetCfgRev 1 = some fleetShip1 := rfl
theorem fleetRev_item2 : item? fleetCfgRev 2 = some fleetMod := rfl
theorem fleetRev_item3 : item? fleetCfgRev 3 = some fleetShip3 := rfl
theorem fleetRev_hset : BuffSettled fleetU (wrun fleetU fleetW fleetS0Rev fleetHist).cfg specImmune specLimited
    fleetPen (wrun fleetU fleetW fleetS0Rev fleetHist).dyn := by
  -- the same registers as `fleetHist` leaves on `fleetCfg`, and settledness does not see the item order
  have hd : (wrun fleetU fleetW fleetS0Rev fleetHist).dyn = (wrun fleetU fleetW fleetS0 fleetHist).dyn := by
    show (⟨(derivedDyn fleetU fleetCfgRev).loaded, _, _, _⟩ : Dyn) = ⟨(derivedDyn fleetU fleetCfg).loaded, _, _, _⟩
    rw [derivedDyn_perm fleetRev_perm fleet_wf.2.2.2.1]
    rfl
  rw [hd]
  exact buffSettled_perm fleet_wf.1 fleetRev_perm fleet_wf.2.2.2.1 fleet_hset

example :
    observe fleetW (toState (wrun fleetU fleetW fleetS0 fleetHist)) (3, 37) =
      observe fleetW (toState (wrun fleetU fleetW fleetS0Rev fleetHist)) (3, 37) ∧
    observe fleetW (toState (wrun fleetU fleetW fleetS0Rev fleetHist)) (3, 37) = some 150 ∧
    evalAll fleetU fleetCfg specImmune specLimited fleetPen ≠ evalAll fleetU fleetCfgRev specImmune specLimited fleetPen := by
  have h := obs_item_order_irrelevant_world (u := fleetU) fleet_wf.1 fleet_wf.2.1 fleet_wf.2.2.1 fleet_hnp
    fleet_wf.2.2.2.1 fleet_wf.2.2.2.2.1 fleet_wf.2.2.2.2.2 fleetRev_wf.1 fleetRev_wf.2.1 fleetRev_wf.2.2
    fleetHist fleetHist fleet_runOK fleetRev_runOK _ _ rfl rfl fleetRev_perm fleet_hset fleetRev_hset
    fleet_evalAll.1 fleet_ship3 fleet_attr37
  exact ⟨h.1, h.1.symm.trans (h.2.trans (congrArg valToOption fleet_evalAll.2.2)), by decide +kernel⟩

/-! The theorems above compare from-scratch tables, i.e. settled states.  The message-level calculation
(`Micro.gatherD` over `allSpecs = cfg.items.flatMap …`) iterates over the item list in *every* state, settled or not;
the local evaluation of a node does not depend on its order for any registers (`evalD_items_perm`), so what follows
needs no settledness and no "non-zero divisors" hypothesis. -/

/-- **The from-scratch values of the message-level model do not depend on the order of the item list**, for any
registers `d` (settled or not). -/
theorem spec_item_order_irrelevant_world (hwf : rankWF u = true) (E : ItemsPerm cfg cfg') (hU : UniqueIds cfg)
    (d : Dyn) (n : Node) :
    spec (worldGraph u immune limited pen hwf (cfg', d)) n = spec (worldGraph u immune limited pen hwf (cfg, d)) n := by
  have T := worldGraph_ties (immune := immune) (limited := limited) (pen := pen) hwf
  refine spec_congr_graph _ _ (fun m f => ?_) n
  rw [T.heval, T.heval, evalD_items_perm E hU]

/-- **Any two reachable states that differ in the order of the item list only are observed identically.**  `s`,
`s'` satisfy the invariant `MInv` (every state a legal history reaches: `C01World.micro_inv_run`), their
configurations differ in the item order only, their registers are equal; the caches may be entirely different (other
reads, other removal orders).  Every node is observed alike. -/
theorem obs_item_order_any_state_world (hwf : rankWF u = true) {s s' : MState}
    (inv : MInv (worldGraph u immune limited pen hwf) s) (inv' : MInv (worldGraph u immune limited pen hwf) s')
    (E : ItemsPerm s.cfg s'.cfg) (hd : s'.dyn = s.dyn) (n : Node) :
    observe (worldGraph u immune limited pen hwf) (toState s) n =
      observe (worldGraph u immune limited pen hwf) (toState s') n := by
  rw [observe_eq_spec _ _ inv.good, observe_eq_spec _ _ inv'.good]
  show spec (worldGraph u immune limited pen hwf (s.cfg, s.dyn)) n =
    spec (worldGraph u immune limited pen hwf (s'.cfg, s'.dyn)) n
  rw [hd, spec_item_order_irrelevant_world hwf E inv.uniq]

/-! An unsettled state: after the first message of `fleetHist` alone (the boost effect runs, nothing is registered or applied yet) the state
is not settled.  The same message on the configuration with the items listed backwards (same start registers)
reaches a state with equal registers; both satisfy the invariant; the theorem applies: ship 3's attribute 37 is
observed alike — the un-boosted 100. -/

example :
    observe fleetW (toState (wrun fleetU fleetW fleetS0 [.micro (.start 2 [2000])])) (3, 37) =
      observe fleetW (toState (wrun fleetU fleetW ⟨fleetCfgRev, fleetD0, fun _ => none⟩
        [.micro (.start 2 [2000])])) (3, 37) ∧
    observe fleetW (toState (wrun fleetU fleetW fleetS0 [.micro (.start 2 [2000])])) (3, 37) = some 100 := by
  have ok1 : WRunOKE fleetU specImmune specLimited fleetPen fleetW fleetS0 [.micro (.start 2 [2000])] :=
    ⟨fleet_runOK.1, trivial⟩
  have ok2 : WRunOKE fleetU specImmune specLimited fleetPen fleetW ⟨fleetCfgRev, fleetD0, fun _ => none⟩
      [.micro (.start 2 [2000])] :=
    wrunOKE_of_errorFree _ _ _ (by unfold ErrorFree; decide +kernel) ⟨fun _ _ => rfl, trivial⟩
  have inv1 := world_inv_run fleet_wf.1 fleet_wf.2.1 fleet_wf.2.2.1 fleet_wf.2.2.2.1 fleet_wf.2.2.2.2.1
    fleet_wf.2.2.2.2.2 _ ok1
  have inv2 := world_inv_run fleet_wf.1 fleet_wf.2.1 fleet_wf.2.2.1 fleetRev_wf.1 fleetRev_wf.2.1
    (d := fleetD0) (tgtKinds_of_nil fun _ _ => rfl) _ ok2
  refine ⟨obs_item_order_any_state_world fleet_wf.1 inv1 inv2 fleetRev_perm rfl (3, 37), ?_⟩
  refine (observe_eq_spec fleetW _ inv1.good (3, 37)).trans ?_
  show spec (fleetW (fleetCfg, (wrun fleetU fleetW fleetS0 [.micro (.start 2 [2000])]).dyn)) (3, 37) = some 100
  decide +kernel

end Eos.C08World
