import EosModel.Rah
import EosGen.RahConsts
import EosProofs.Lemmas.RahWorld
/-! # C12 — reactive armor hardener simulation obeys its adaptation law

Over the model `Eos.Rah`, which mirrors `eos/sim/reactive_armor_hardener.py` (model = code is checked by the
differential correspondence of `tools/props/c12.py` on every run), and the constants regenerated from the source into
`EosGen.RahConsts`. "Inside the guard" refers to `Lemmas/RahGuards.lean`. -/
namespace Eos.C12
open Eos.Rah

def typeName : Dmg → String
  | .em => "em" | .therm => "therm" | .kin => "kin" | .expl => "expl"

def allTypes : List Dmg := [.em, .therm, .kin, .expl]

/-- `MAX_SIMULATION_TICKS` and `SIG_DIGITS` in the source are the model's. -/
theorem gen_limits : EosGen.RahConsts.maxSimulationTicks = maxTicks ∧ EosGen.RahConsts.sigDigits = sigDigits :=
  ⟨rfl, rfl⟩

/-- `res_attr_ids` (tie-break order) is em, explosive, kinetic, thermal. -/
theorem gen_res_order : EosGen.RahConsts.resOrder = order.map typeName := rfl

/-- `attr_profile_map` pairs every resonance attribute with the profile field of the same damage type. -/
theorem gen_profile_map : EosGen.RahConsts.profileMap = allTypes.map fun t => (typeName t, profileField t) :=
  rfl

/-- `_handler_map` as regenerated from the source: ship (un)loading, RAH effect start/stop, announced attribute
    changes (plain and masked), profile change. These are the messages `World.step` was modelled on; that link is by
    reading, this theorem only pins the list. -/
theorem gen_handlers : EosGen.RahConsts.handlers =
    [("ItemLoaded", "_handle_item_loaded_unloaded"), ("ItemUnloaded", "_handle_item_loaded_unloaded"),
     ("EffectsStarted", "_handle_effects_started"), ("EffectsStopped", "_handle_effects_stopped"),
     ("AttrsValueChanged", "_handle_attr_changed"), ("AttrsValueChangedMasked", "_handle_attr_changed_masked"),
     ("RahIncomingDmgChanged", "_handle_changed_dmg_profile")] := rfl

/-- The RAH effect multiplies (`pre_mul`, stacking) each ship armor resonance by the hardener's own. -/
theorem gen_modifiers : EosGen.RahConsts.modifiers =
      (allTypes.map fun t => ("item", "ship", typeName t, "pre_mul", "stack", typeName t)) ∧
    EosGen.RahConsts.attachedToRahEffect = true := ⟨rfl, rfl⟩

/-- Why "summing to more than 3" is the right guard: with every resonance at most 1 it keeps each one positive
    (at least `S - 3`), so the ship takes damage of every type present in the profile. -/
theorem reso_pos_of_sum_gt_three {v : Vec} (hs : 3 < v.sum) (hc : ∀ t, v.get t ≤ 1) (t : Dmg) :
    0 < v.get t ∧ v.sum - 3 ≤ v.get t :=
  ⟨pos_of_sum_gt_three hs hc t, Vec.sum_sub_three_le hc t⟩

/-- A shift redistributes: the sum of the four resonances is unchanged whenever at least one damage type was
    received (i.e. there is a recipient). For ANY current resonances and shift amount. -/
theorem next_conserves_sum (cur d : Vec) (shift : Rat) (h : ∃ t, d.get t ≠ 0) :
    (nextResos cur d shift).sum = cur.sum := nextResos_sum shift h

/-- A shift never pushes a resonance above 1. -/
theorem next_le_one (cur d : Vec) (shift : Rat) (hc : ∀ t, cur.get t ≤ 1) (hs : 0 ≤ shift) (t : Dmg) :
    (nextResos cur d shift).get t ≤ 1 := nextResos_le_one d hc hs t

/-- Under the sum guard a shift keeps every resonance positive. -/
theorem next_pos (cur d : Vec) (shift : Rat) (hsum : 3 < cur.sum) (hc : ∀ t, cur.get t ≤ 1) (hs : 0 ≤ shift)
    (h : ∃ t, d.get t ≠ 0) (t : Dmg) : 0 < (nextResos cur d shift).get t :=
  pos_of_sum_gt_three (by rw [nextResos_sum shift h]; exact hsum) (nextResos_le_one d hc hs) t

/-- Without a recipient (no damage of any type) all four types donate and nobody takes: the sum GROWS. The guard
    `3 < sum` excludes this through positivity only: resonances then stay positive (`reso_pos_of_sum_gt_three`), so the
    ship's do (`ShipOK`), so a cycle that ends has received damage of a profile type. With a base sum <= 3 a resonance
    can reach 0 or less, and then nothing guarantees that the received damage is not all zero. -/
example : (nextResos ⟨1/2, 1/2, 1/2, 1/2⟩ Vec.zero (1/10)).sum = 2 + 4/10 := by
  have hd : ∀ t, t ∈ donorList Vec.zero := fun t => zero_damage_donates (fun t => (Vec.get_zero t).ge) (Vec.get_zero t)
  rw [Vec.sum_eq, nextResos_donor (hd _), nextResos_donor (hd _), nextResos_donor (hd _), nextResos_donor (hd _)]
  decide +kernel

/-- Number of donors: at least two, and every type without damage. -/
theorem donor_count (d : Vec) :
    (donorList d).length = max 2 ((allTypes.filter fun t => d.get t = 0).length) := by
  rw [donorList_length, donorsN, zeroCount]
  exact congrArg (max 2) (List.Perm.length_eq (List.Perm.filter _ (by decide : order.Perm allTypes)))

/-- Donors are the least damaged types. -/
theorem donors_le_recipients {d : Vec} {a b : Dmg} (ha : a ∈ donorList d) (hb : b ∉ donorList d) :
    d.get a ≤ d.get b := donor_le_recipient ha hb

/-- A type which received no damage donates. -/
theorem zero_damage_is_donor {d : Vec} (hd : ∀ t, 0 ≤ d.get t) {a : Dmg} (ha : d.get a = 0) : a ∈ donorList d :=
  zero_damage_donates hd ha

/-- Ties go by the order of `res_attr_ids`: of two types with equal damage the one listed earlier donates first. -/
theorem tie_by_list_order {d : Vec} {a b : Dmg} (hord : [a, b].Sublist order) (heq : d.get a = d.get b)
    (hb : b ∈ donorList d) : a ∈ donorList d := tie_earlier_donates hord heq.le hb

/-- The new value of a donor / of a recipient. -/
theorem next_value (cur d : Vec) (shift : Rat) (t : Dmg) :
    (nextResos cur d shift).get t =
      if t ∈ donorList d then cur.get t + rmin (1 - cur.get t) shift
      else cur.get t - ((donorList d).map fun x => rmin (1 - cur.get x) shift).sum / ((4 - (donorList d).length : Nat) : Rat) := by
  rw [nextResos_get, donorList_length]; rfl

/-- With damage of one type only, the state "everything shiftable sits on that type" does not move. -/
theorem single_type_fixpoint {d : Vec} {a : Dmg} (h : SingleType d a) {cur : Vec} {shift : Rat} (hs : 0 ≤ shift)
    (hc : ∀ t, t ≠ a → cur.get t = 1) : nextResos cur d shift = cur :=
  -- the three donors stay at 1 and the sum is conserved
  Vec.ext_of_sum (nextResos_sum shift ⟨a, h.1.ne'⟩) fun t ht => by
    rw [nextResos_donor ((single_donor_iff h t).mpr ht), hc t ht]; exact min_eq_left (le_add_of_nonneg_right hs)

/-- The fixpoint of `single_type_fixpoint` is reached by repeated shifts with the same damage: after `k` cycles with `k * shift >= 1 - r` for every other type `r`, all other
    resonances are 1 and the damaged type holds `S - 3`. -/
theorem single_type_reaches {d : Vec} {a : Dmg} (h : SingleType d a) {cur : Vec} {shift : Rat} (hs : 0 ≤ shift)
    (hc : ∀ t, cur.get t ≤ 1) (k : Nat) (hk : ∀ t, t ≠ a → 1 - cur.get t ≤ k * shift) :
    iterShift d shift k cur = Vec.ofFn fun t => if t = a then cur.sum - 3 else 1 := by
  refine Vec.ext_of_sum (a := a) ?_ fun t ht => ?_
  · rw [iterShift_sum ⟨a, h.1.ne'⟩]; cases a <;> simp only [Vec.sum_ofFn, reduceCtorEq, reduceIte] <;> ring
  · rw [iterShift_donor ((single_donor_iff h t).mpr ht) hs (hc t), Vec.get_ofFn, if_neg ht]; exact min_eq_left (sub_le_iff_le_add'.mp (hk t ht))

/- Full statement (not proved for the whole simulation): "a single-type damage profile drives all shiftable
   resistance onto that type" for `getResults`. Missing: the loop detector compares resonances rounded to 10
   significant digits and the run is cut at MAX_SIMULATION_TICKS, so for tiny shift amounts the averaged result is
   only near the fixpoint. Covered on the real code by the oracle and the correspondence. -/

/-- Averaging over the loop keeps the sum. -/
theorem avg_conserves_sum {i : Nat} {r : RS} {S : Rat} (hr : r.resos.sum = S ∧ ∀ t, r.resos.get t ≤ 1)
    (hs : ∀ s ∈ r.snaps, s.2.sum = S ∧ ∀ t, s.2.get t ≤ 1) : (avgFrom i r).sum = S := (avgFrom_ok hr hs).1

/-- Averaging over the loop keeps the bound 1. -/
theorem avg_le_one {i : Nat} {r : RS} {S : Rat} (hr : r.resos.sum = S ∧ ∀ t, r.resos.get t ≤ 1)
    (hs : ∀ s ∈ r.snaps, s.2.sum = S ∧ ∀ t, s.2.get t ≤ 1) (t : Dmg) : (avgFrom i r).get t ≤ 1 := (avgFrom_ok hr hs).2 t

/-- What is assumed of the rest of the calculator: positive ship resonances for positive hardener resonances. -/
def ShipOK (ship : Option (List Vec → Option Vec)) : Prop :=
  ∀ f, ship = some f → ∀ rs s, f rs = some s → (∀ v ∈ rs, ∀ t, 0 < v.get t) → ∀ t, 0 < s.get t

/-- Whatever `getResults` returns (a simulated result or the fallback) keeps every hardener's sum and the bound 1. -/
theorem results_ok {ship : Option (List Vec → Option Vec)} {p : Vec} (maxT : Nat) {rahs : List Rah}
    (hr : ∀ r ∈ rahs, RahOK r) (hp : ∀ t, 0 ≤ p.get t) (hp' : ∃ t, 0 < p.get t) (hs : ShipOK ship) :
    OutOK rahs (getResults ship p maxT rahs).1 := by
  have hbase : OutOK rahs (rahs.map (·.base)) :=
    List.forall₂_map_right_iff.mpr (List.forall₂_same.mpr fun r hr' => ⟨rfl, (hr r hr').le_one⟩)
  cases ship with
  | none => exact hbase
  | some f =>
    rw [getResults_fst]
    cases h : simulate ⟨f, p⟩ maxT rahs with
    | none => exact hbase
    | some o =>
      -- stated first: as an argument of `simulate_good` its fields are unified against a still unknown `env`, slowly
      have he : EnvOK ⟨f, p⟩ := ⟨hp, hp', hs f rfl⟩
      exact simulate_good he hr h

/-- For all inputs inside the guard, any number of ticks and whatever loop is found (or none): every hardener's
    result keeps the sum of its unsimulated resonances. -/
theorem sim_conserves {ship : Option (List Vec → Option Vec)} {p : Vec} (maxT : Nat) {rahs : List Rah}
    (hr : ∀ r ∈ rahs, RahOK r) (hp : ∀ t, 0 ≤ p.get t) (hp' : ∃ t, 0 < p.get t) (hs : ShipOK ship) :
    List.Forall₂ (fun rah v => v.sum = rah.base.sum) rahs (getResults ship p maxT rahs).1 :=
  (results_ok maxT hr hp hp' hs).imp fun _ _ h => h.1

/-- For all inputs inside the guard no resonance of a result is above 1. -/
theorem sim_le_one {ship : Option (List Vec → Option Vec)} {p : Vec} (maxT : Nat) {rahs : List Rah}
    (hr : ∀ r ∈ rahs, RahOK r) (hp : ∀ t, 0 ≤ p.get t) (hp' : ∃ t, 0 < p.get t) (hs : ShipOK ship) :
    List.Forall₂ (fun _ v => ∀ t, v.get t ≤ 1) rahs (getResults ship p maxT rahs).1 :=
  (results_ok maxT hr hp hp' hs).imp fun _ _ h => h.2

/-- For all inputs inside the guard every resonance of a result is positive. -/
theorem sim_pos {ship : Option (List Vec → Option Vec)} {p : Vec} (maxT : Nat) {rahs : List Rah}
    (hr : ∀ r ∈ rahs, RahOK r) (hp : ∀ t, 0 ≤ p.get t) (hp' : ∃ t, 0 < p.get t) (hs : ShipOK ship) :
    List.Forall₂ (fun _ v => ∀ t, 0 < v.get t) rahs (getResults ship p maxT rahs).1 :=
  ((List.forall₂_and_left ..).mpr ⟨hr, results_ok maxT hr hp hp' hs⟩).imp fun _ _ h =>
    pos_of_sum_gt_three (h.2.1 ▸ h.1.sum_gt) h.2.2

/-- Termination is structural (`run` recurses on the remaining tick budget); a successful run reports at most
    `maxT` ticks (`ticks` is the model's count of loop passes). With `gen_limits`: at most MAX_SIMULATION_TICKS = 500.
    The bound holds for any input: the two guards are not used. -/
theorem sim_terminates {env : Env} (he : EnvOK env) {maxT : Nat} {rahs : List Rah} (hr : ∀ r ∈ rahs, RahOK r)
    {o : Out} (h : simulate env maxT rahs = some o) : o.ticks ≤ maxT := simulate_ticks_le h

/-- No loaded ship: the unsimulated values, whatever the other inputs. -/
theorem fallback_no_ship (p : Vec) (maxT : Nat) (rahs : List Rah) :
    (getResults none p maxT rahs).1 = rahs.map (·.base) ∧ (getResults none p maxT rahs).2.1 = .noShip := ⟨rfl, rfl⟩

/-- Any internal failure of the run (every partial operation of the Python code is such an outcome in the
    model): the unsimulated values. -/
theorem fallback_failed (f : List Vec → Option Vec) (p : Vec) (maxT : Nat) (rahs : List Rah)
    (h : simulate ⟨f, p⟩ maxT rahs = none) :
    (getResults (some f) p maxT rahs).1 = rahs.map (·.base) ∧ (getResults (some f) p maxT rahs).2.1 = .failed := by
  rw [getResults_fst, getResults_outcome, h]; exact ⟨rfl, rfl⟩

/-- The failure branch is inhabited: a zero cycle time (`log10(0)` in `sig_round`) fails every run of two or
    more ticks. -/
theorem fails_of_zero_duration (env : Env) (n : Nat) (rah : Rah) (h : rah.dur = some 0) :
    simulate env (n + 2) [rah] = none := by
  have hadv : ∀ r : RS, r.rah.dur = some 0 → advance [r] = none := fun r hr => by
    cases hadv : advance [r] with
    | none => rfl
    | some p =>
      obtain ⟨_, _, _, hst⟩ := advance_eq_some.mp hadv
      rw [mapO_singleton, stepCycle_dur_zero hr] at hst; cases hst
  -- the first pass finds no loop in the empty history; the second cannot advance
  rw [simulate_succ, afterTick_eq]
  change Option.bind ((env.ship [(RS.init rah).resos]).bind _) _ = _
  cases env.ship [(RS.init rah).resos] with
  | none => rfl
  | some ship =>
    simp only [Option.bind_some, Sim.start, List.map_cons, List.map_nil, mapO_singleton,
      shift_false (r := accum env.profile ship 0 (RS.init rah)) rfl, Option.map_some]
    cases keyOf (accum env.profile ship 0 (RS.init rah)) with
    | none => rfl
    | some key =>
      simp only [Option.map_some, List.findIdx?_nil, Option.bind_some, Sum.elim_inr, run_succ, tick]
      rw [hadv _ (by exact h)]; rfl

/-- A stopped hardener leaves the simulator's inputs, and the stored results are dropped. -/
theorem stop_forgets {σ : Type} (shipFn : σ → List Vec → Option Vec) (maxT : Nat) (w : World σ) (i : Nat) :
    (w.step shipFn maxT (.stop i)).inputs = w.inputs.eraseIdx i ∧ (w.step shipFn maxT (.stop i)).res = none := by
  refine ⟨?_, rfl⟩
  simp only [World.step, World.inputs]
  exact List.eraseIdx_map ..|>.symm

/-- With a single running hardener the result is the same for every positive cycle time (this is why the
    simulator may ignore cycle-time changes then). -/
theorem sim_single_dur_irrelevant {ship : Option (List Vec → Option Vec)} {p : Vec} {rah : Rah} {d d' : Rat}
    (hdur : rah.dur = some d) (hd : 0 < d) (hd' : 0 < d') (maxT : Nat) :
    (getResults ship p maxT [{ rah with dur := some d' }]).1 = (getResults ship p maxT [rah]).1 :=
  getResults_single_dur hdur hd hd' maxT

/-- Inside the guard, with at least one hardener, all inputs present and shift amounts > 0, a run with a ship never
    takes the fallback: the simulation yields a result. -/
theorem sim_never_fails {σ : Type} {shipFn : σ → List Vec → Option Vec} (hs : ShipFnOK shipFn) (s : σ) {p : Vec}
    (hp : ProfOK p) (maxT : Nat) {rahs : List Rah} (hne : rahs ≠ []) (hr : ∀ r ∈ rahs, RahFull r) :
    (getResults (some (shipFn s)) p maxT rahs).2.1 = .ok := getResults_ok hs s hp maxT hne hr

/-- For EVERY history of reads and input changes inside the guard (`ValidOp`: profiles as `DmgProfile`
    accepts them, hardeners with base resonances <= 1 summing to more than 3, positive shift amounts and cycle
    times; `ShipFnOK`: the calculator yields positive ship resonances), whatever is stored in the simulator equals
    the results of a fresh run on the CURRENT inputs. -/
theorem stored_results_current {σ : Type} (shipFn : σ → List Vec → Option Vec) (hs : ShipFnOK shipFn) (maxT : Nat)
    (ops : List (Op σ)) (hv : ∀ op ∈ ops, ValidOp op) (r : List Vec)
    (hres : (World.init.run shipFn maxT ops).res = some r) :
    r = (getResults ((World.init.run shipFn maxT ops).ship.map shipFn) (World.init.run shipFn maxT ops).profile maxT
          (World.init.run shipFn maxT ops).inputs).1 :=
  (winv_run hs ops (winv_init shipFn maxT) hv).coh r hres

/-- A read after any history as in `stored_results_current` returns the results of the current inputs: results
    depend only on current inputs. -/
theorem read_current {σ : Type} (shipFn : σ → List Vec → Option Vec) (hs : ShipFnOK shipFn) (maxT : Nat)
    (ops : List (Op σ)) (hv : ∀ op ∈ ops, ValidOp op) (hne : (World.init.run shipFn maxT ops).rahs ≠ []) :
    ((World.init.run shipFn maxT ops).step shipFn maxT .readRah).exposed =
      (getResults ((World.init.run shipFn maxT ops).ship.map shipFn) (World.init.run shipFn maxT ops).profile maxT
        (World.init.run shipFn maxT ops).inputs).1 :=
  exposed_fill (winv_run hs ops (winv_init shipFn maxT) hv) hne

/-- A hardener inside the guard. -/
example : RahOK ⟨⟨85/100, 85/100, 85/100, 85/100⟩, some 6, some 10⟩ :=
  ⟨by decide +kernel, by intro t; cases t <;> decide +kernel, by intro s h; cases h; decide +kernel,
   by intro d h; cases h; decide +kernel⟩

/-- An environment inside the guard. -/
example : EnvOK ⟨fun _ => some ⟨1/2, 13/20, 3/4, 9/10⟩, ⟨1, 0, 0, 0⟩⟩ :=
  ⟨by intro t; cases t <;> decide +kernel, ⟨.em, by decide +kernel⟩,
   by intro rs s h _ t; cases h; cases t <;> decide +kernel⟩

/-- One concrete shift with thermal damage only: EM, explosive and kinetic each give 6 %, thermal takes 18 %. -/
example : nextResos ⟨85/100, 85/100, 85/100, 85/100⟩ ⟨0, 5, 0, 0⟩ (6/100) = ⟨91/100, 67/100, 91/100, 91/100⟩ := by
  have h : SingleType ⟨0, 5, 0, 0⟩ .therm :=
    ⟨by decide +kernel, by intro t ht; cases t <;> first | rfl | exact absurd rfl ht⟩
  refine Vec.ext_of_sum (a := .therm) ((nextResos_sum _ ⟨.therm, h.1.ne'⟩).trans (by decide +kernel)) fun t ht => ?_
  rw [nextResos_donor ((single_donor_iff h t).mpr ht)]
  cases t <;> first | exact absurd rfl ht | decide +kernel

def demoRun (ops : List (Op Unit)) : World Unit := World.init.run (fun _ _ => none) maxTicks ops

/-- `World.step` at work (not an instance of `stored_results_current`: `demoRun` has no ship function inside the guard
    and `r` is arbitrary): after a start and a read results are stored, without a ship the unsimulated values. -/
example (r : Rah) : (demoRun [.start r false false, .readRah]).res = some [r.base] := rfl

/-- Assigning a ship after that history drops the stored results. -/
example (r : Rah) : (demoRun [.start r false false, .readRah, .setShip (some ())]).res = none := rfl

/-- `ValidOp` and `ShipFnOK` are satisfiable. -/
example : ValidOp (.start ⟨⟨85/100, 85/100, 85/100, 85/100⟩, some 6, some 10⟩ false false : Op Unit) :=
  ⟨⟨by decide +kernel, by intro t; cases t <;> decide +kernel, by intro s h; cases h; decide +kernel,
    by intro d h; cases h; decide +kernel⟩, ⟨6, rfl, by decide +kernel⟩, ⟨10, rfl, by decide +kernel⟩⟩

example : ShipFnOK (fun (_ : Unit) (_ : List Vec) => some ⟨1/2, 13/20, 3/4, 9/10⟩) := by
  intro s rs
  exact ⟨_, rfl, fun _ t => by cases t <;> decide +kernel⟩

/-- A single-type damage vector. -/
example : SingleType ⟨0, 0, 7, 0⟩ .kin := ⟨by decide +kernel, by intro t ht; cases t <;> first | rfl | exact absurd rfl ht⟩

end Eos.C12
