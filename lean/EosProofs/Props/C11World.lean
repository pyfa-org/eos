import EosProofs.Lemmas.MicroTeardown
/-! # C11, message level — once everything has been removed no register or cache retains any entry

The registers of the calculation service (`AffectionRegister`, `ProjectionRegister`, `__warfare_buffs`) are modelled by
their *declarative content* (`Micro.Dyn`: loaded flag, running-effect flags, recorded projection targets, registered
warfare-buff modifiers, each keyed by item id), from which affector specs, affectees, direct invalidation targets and
reverse dependencies are derived.  "The register retains no entry" is therefore stated as: the flags of every configured item
are off and nothing is recorded or registered for it (`DynEmptyOn`) — and every derived list is empty
(`registers_empty`).

The tear-down of item `i` (`teardown i es s`) is the message sequence that reaches the service when an item is removed,
*computed from the registers of `s`*.  So (1) and (2) below are closed-form facts about what these messages do
to the registers and hold in any state; with registers keyed by item id they could fail only through a message
sequence that forgets something the registers hold.  What can fail is (3): the messages are taken under their side
conditions only if projectors are torn down before their targets (K1), and with that the tear-down is a legal
continuation of any legal history. -/
namespace Eos.C11World
open Eos.World Eos.Micro Eos.Micro.L Eos.DepCache Eos.Machine

variable {u : Universe}

/-- **(1) Tear-down of one item.**  After `teardown i es s` (with `es` covering the effects of `i` that run,
have recorded targets or registered warfare-buff modifiers): the configuration is unchanged; `i` is not loaded,
none of its effects runs, no projector of `i` has a recorded target or a registered warfare-buff modifier, and
no cache entry of `i` remains; the registers of every other item are untouched, and the cache has only lost
entries. -/
theorem teardown_item (i : Nat) (es : List Int) (s : MState) (hcov : Covers s.dyn i es) :
    (mrun u s (teardown i es s)).cfg = s.cfg ∧
    (mrun u s (teardown i es s)).dyn.loaded i = false ∧
    (∀ e, (mrun u s (teardown i es s)).dyn.on i e = false) ∧
    (∀ e, (mrun u s (teardown i es s)).dyn.tgts i e = []) ∧
    (∀ e, (mrun u s (teardown i es s)).dyn.bspecs i e = []) ∧
    (∀ a, (mrun u s (teardown i es s)).cache (i, a) = none) ∧
    (∀ j, j ≠ i → (mrun u s (teardown i es s)).dyn.loaded j = s.dyn.loaded j ∧
      ∀ e, (mrun u s (teardown i es s)).dyn.on j e = s.dyn.on j e ∧
        (mrun u s (teardown i es s)).dyn.tgts j e = s.dyn.tgts j e ∧
        (mrun u s (teardown i es s)).dyn.bspecs j e = s.dyn.bspecs j e) ∧
    Cascade.Sub s.cache (mrun u s (teardown i es s)).cache := by
  have hd := teardown_dyn (u := u) i es s hcov
  have h := hd ▸ clearItems_of_mem (d := s.dyn) (List.mem_singleton_self i)
  exact ⟨mrun_cfg _ _ teardown_no_reconfig, h.1, fun e => (h.2 e).1, fun e => (h.2 e).2.1, fun e => (h.2 e).2.2,
    fun a => teardown_cache i es s rfl,
    fun j hj => hd ▸ clearItems_of_not_mem (d := s.dyn) (fun hm => hj (List.mem_singleton.1 hm)), mrun_sub _ _⟩

/-- **(2) Tear-down of everything.**  After tearing down every item of the configuration — in any order,
`order` only has to mention every configured item — the registers hold nothing for the configured items
(loaded flags, running effects, recorded targets, registered warfare-buff modifiers) and the cache holds
nothing for them. -/
theorem teardown_all_empty (es : List Int) (order : List Nat) (s : MState) (hc : ∀ j, Covers s.dyn j es)
    (hall : ∀ x ∈ s.cfg.items, x.id ∈ order) :
    (mrun u s (teardownAll u es order s)).cfg = s.cfg ∧
    DynEmptyOn s.cfg (mrun u s (teardownAll u es order s)).dyn ∧
    ∀ x ∈ s.cfg.items, ∀ a, (mrun u s (teardownAll u es order s)).cache (x.id, a) = none := by
  obtain ⟨c, d, _, ca⟩ := teardownAll_spec (u := u) es order s hc
  exact ⟨c, fun x hx => d ▸ clearItems_of_mem (hall x hx), fun x hx a => ca (x.id, a) (hall x hx)⟩

/-- What empty flags mean for the derived registers: no item has a type, a running effect, an affector spec
or a projection target; there is no affector spec at all; no spec has an affectee; no node has a dependency
or a direct invalidation target; and of the reverse-dependency enumerators only the static cap table
(attributes capped by the node's attribute — the declarative over-approximation of `_cap_map`, which
`attrs._clear()` resets) is left. -/
theorem registers_empty {cfg : Config} {d : Dyn} (h : DynEmptyOn cfg d) :
    (∀ x ∈ cfg.items, typeOf? u d x = none ∧ running u d x = [] ∧ localSpecs u d x = [] ∧
      projSpecs u cfg d x = [] ∧ ∀ e, targetsOf cfg d x e = []) ∧
    allSpecs u cfg d = [] ∧
    (∀ s, affectees u cfg d s = []) ∧
    (∀ x tx attr, specsOn u cfg d x tx attr = []) ∧
    (∀ specs, directOf u cfg d specs = []) ∧
    (∀ n, deps u cfg d n = []) ∧
    (∀ n, rdeps u cfg d n = match item? cfg n.1 with
      | none => []
      | some y => (u.attrs.filter fun am => am.maxAttr == some n.2).map fun am => (y.id, am.id)) :=
  ⟨fun _ hx => ⟨typeOf?_empty h hx, running_empty h hx, localSpecs_empty h hx, projSpecs_empty h hx,
      targetsOf_empty h hx⟩,
    allSpecs_empty h, affectees_empty h, specsOn_empty h, directOf_empty h, deps_empty h, rdeps_empty h⟩

/-- (2) in terms of the derived registers: after the tear-down of everything they are empty. -/
theorem teardown_all_registers_empty (es : List Int) (order : List Nat) (s : MState)
    (hc : ∀ j, Covers s.dyn j es) (hall : ∀ x ∈ s.cfg.items, x.id ∈ order) :
    allSpecs u s.cfg (mrun u s (teardownAll u es order s)).dyn = [] ∧
    (∀ sp, affectees u s.cfg (mrun u s (teardownAll u es order s)).dyn sp = []) ∧
    (∀ n, deps u s.cfg (mrun u s (teardownAll u es order s)).dyn n = []) :=
  have h := (teardown_all_empty (u := u) es order s hc hall).2.1
  ⟨allSpecs_empty h, affectees_empty h, deps_empty h⟩

/-- **(3) The tear-down of one item is taken under the side conditions** of the message-level steps
(`StepOK`), provided no *other* item still has `i` among its recorded targets — the K1 side condition: the
handlers do not revise a projection whose target is unloaded. -/
theorem teardown_item_stepOK (W : Config × Dyn → Graph Node Rat) (i : Nat) (es : List Int) (s : MState)
    (hcov : Covers s.dyn i es) (hK1 : ∀ a, a ≠ i → ∀ e, i ∉ s.dyn.tgts a e) :
    MRunOK u (StepOK W) s (teardown i es s) :=
  teardown_stepOK W i es s hcov hK1

/-- (3) for the tear-down of everything: when projectors let go of their targets first (`K1Order`: a projector is
torn down before its targets) all messages satisfy `StepOK`, hence the tear-down is a legal run: the state invariant
`MInv` (cache coherent and dependency-closed, configuration well-formed) holds in every state it passes through,
given non-zero divisors around each message (`hst : StaticAround`). -/
theorem teardown_all_legal {immune limited : List Int} {pen : Nat → Rat} {keep : Config → Node → Bool}
    {W : Config × Dyn → Graph Node Rat} (T : Ties u immune limited pen keep W) (hwf : rankWF u = true)
    (hun : UniqueAttrs u) (hR : ResistWF u) (es : List Int) (order : List Nat) (s : MState) (inv : MInv W s)
    (hc : ∀ j, Covers s.dyn j es) (hk : K1Order s.dyn [] order)
    (hst : MRunOK u (StaticAround u W) s (teardownAll u es order s)) :
    MRunAll u (MInv W) s (teardownAll u es order s) :=
  mrun_inv_all T hwf hun hR _ s inv
    (mrunOK_and _ s (teardownAll_stepOK W es order s hc hk) hst)

/-- After *any* legal message history from an empty cache, a tear-down of everything in which projectors let
go first and every message has non-zero divisors around it (`hst`) is again a legal history (so everything read on
the way equals the from-scratch value, `C01World.micro_read_eq_spec`), and it ends with empty registers and nothing
cached for configured items. -/
theorem history_then_teardown {immune limited : List Int} {pen : Nat → Rat} {keep : Config → Node → Bool}
    {W : Config × Dyn → Graph Node Rat} (T : Ties u immune limited pen keep W) (hwf : rankWF u = true)
    (hun : UniqueAttrs u) (hR : ResistWF u) {cfg : Config} {d : Dyn} (hU : UniqueIds cfg) (hC : ChargeWF cfg)
    (hT : TgtKinds cfg d) (steps : List WStep) (ok : WRunOK u W ⟨cfg, d, fun _ => none⟩ steps)
    (es : List Int) (order : List Nat)
    (hc : ∀ j, Covers (wrun u W ⟨cfg, d, fun _ => none⟩ steps).dyn j es)
    (hk : K1Order (wrun u W ⟨cfg, d, fun _ => none⟩ steps).dyn [] order)
    (hall : ∀ x ∈ (wrun u W ⟨cfg, d, fun _ => none⟩ steps).cfg.items, x.id ∈ order)
    (hst : MRunOK u (StaticAround u W) (wrun u W ⟨cfg, d, fun _ => none⟩ steps)
      (teardownAll u es order (wrun u W ⟨cfg, d, fun _ => none⟩ steps))) :
    let s := wrun u W ⟨cfg, d, fun _ => none⟩ steps
    let hist := steps ++ (teardownAll u es order s).map .micro
    WRunOK u W ⟨cfg, d, fun _ => none⟩ hist ∧
    MInv W (wrun u W ⟨cfg, d, fun _ => none⟩ hist) ∧
    DynEmptyOn s.cfg (wrun u W ⟨cfg, d, fun _ => none⟩ hist).dyn ∧
    ∀ x ∈ s.cfg.items, ∀ a, (wrun u W ⟨cfg, d, fun _ => none⟩ hist).cache (x.id, a) = none := by
  intro s hist
  have hok : WRunOK u W ⟨cfg, d, fun _ => none⟩ hist :=
    (wrunOK_append W _ _ _).2 ⟨ok, (wrunOK_micro W _ s).2
      (mrunOK_and _ s (teardownAll_stepOK W es order s hc hk) hst)⟩
  have hrun : wrun u W ⟨cfg, d, fun _ => none⟩ hist = mrun u s (teardownAll u es order s) := by
    show wrun u W _ (steps ++ _) = _
    rw [wrun_append, wrun_micro]
  obtain ⟨_, he, hcache⟩ := teardown_all_empty (u := u) es order s hc hall
  refine ⟨hok, ?_, ?_, ?_⟩
  · exact wrun_inv T hwf hun hR hist ⟨good_init W (cfg, d), hU, hC, hT⟩ hok
  · rw [hrun]; exact he
  · rw [hrun]; exact hcache

/-- In the tiny universe, with effect 100 of the ship running, the tear-down of the ship is
`EffectsStopped [100]; ItemUnloaded`, and the hypotheses of (1) and (3) hold of it — the K1 ones vacuously: nothing
is recorded in `tinyS`.  A tear-down with a real K1 order (module before the ship it targets) is taken through
`teardown_all_legal` / `history_then_teardown` in `C14World` (`settleA_switchOK`, `switch_source_world`). -/
example : teardown 0 [100] (mstep tinyU tinyS (.start 0 [100])) = [.stop 0 [100], .unload 0] ∧
    Covers (mstep tinyU tinyS (.start 0 [100])).dyn 0 [100] ∧
    (∀ a, a ≠ 0 → ∀ e, 0 ∉ (mstep tinyU tinyS (.start 0 [100])).dyn.tgts a e) ∧
    K1Order (mstep tinyU tinyS (.start 0 [100])).dyn [] [0] := by
  refine ⟨rfl, ?_, fun _ _ _ h => (by cases h), ⟨fun _ _ h => (by cases h), trivial⟩⟩
  intro e he
  rcases he with he | he | he
  · have : (if (0 : Nat) = 0 ∧ e ∈ [(100 : Int)] then true else false) = true := he
    by_cases h : (0 : Nat) = 0 ∧ e ∈ [(100 : Int)]
    · exact h.2
    · rw [if_neg h] at this; cases this
  · exact absurd rfl he
  · exact absurd rfl he

/-- With warfare-buff modifiers registered for projector `(0, 100)` (and nothing running or applied) the
tear-down of the ship drops them first; `[100]` covers what the registers hold, and afterwards nothing is
registered. -/
example :
    let s : MState := { tinyS with dyn := { tinyS.dyn with
      bspecs := fun i e => if i = 0 ∧ e = 100 then [⟨1, 4, none, 2, 9, 1, none, 1⟩] else [] } }
    teardown 0 [100] s = [.buffset 0 100 [], .stop 0 [], .unload 0] ∧ Covers s.dyn 0 [100] ∧
    ∀ e, (mrun tinyU s (teardown 0 [100] s)).dyn.bspecs 0 e = [] := by
  intro s
  have hcov : Covers s.dyn 0 [100] := by
    intro e he
    rcases he with he | he | he
    · cases he
    · exact absurd rfl he
    · have he' : (if (0 : Nat) = 0 ∧ e = 100 then [(⟨1, 4, none, 2, 9, 1, none, 1⟩ : Modifier)] else []) ≠ [] := he
      by_cases h : (0 : Nat) = 0 ∧ e = 100
      · rw [h.2]; exact List.mem_singleton.2 rfl
      · rw [if_neg h] at he'; exact absurd rfl he'
  exact ⟨rfl, hcov, (teardown_item (u := tinyU) 0 [100] s hcov).2.2.2.2.1⟩

end Eos.C11World
