import EosModel.ModInfo
import EosGen.ModInfoTable
import EosProofs.Lemmas.ModInfoBlocks
import EosProofs.Lemmas.ModInfoRows
import EosProofs.Lemmas.ModInfo
/-! # C19 — modifier info conversion is total and faithful

`EosGen.ModInfoTable` is regenerated on every run by running the real `ModInfoconverter.convert` /
`ModBuilder().build` on one-entry lists: for each of the 5 handled functions x 8 domains x 11 operations the
id-shape patterns of `idPatterns` (the product of the six basic shapes over the fields the function reads, then
further shapes one field at a time), and single rows for the other function / domain / operation values. The
first four theorems are about what the code does on these; the others are about the model's `convert` / `build`
on lists of any length and content. -/
namespace Eos.C19
open Eos.ModInfo EosGen.ModInfoTable

/-- Every row of the per-entry table obtained from the real code — outcome of the conversion (build
    failure, or all eight modifier fields and the validation verdict) and what `ModBuilder().build`
    returns for the one-entry list — is what `convertEntry`, `valid` and (through `buildView_eq`) `build` say. -/
theorem table_matches_spec :
    (∀ b ∈ blocks0 ++ blocks1 ++ blocks2 ++ blocks3 ++ blocks4, blockOk b = true) ∧ rowsOk rows = true := by
  refine ⟨fun b hb => ?_, rows_ok⟩
  rw [blockOk, blockSpec_eq]
  exact List.all_eq_true.mp blocks_ok b hb

/-- The table is the complete product: one block (all id-shape patterns of the function) for each of
    5 handled functions x 8 domains x 11 operations, and the rows for unknown / missing function x
    8 domains x 11 operations and a non-dict entry come first in the row table. -/
theorem table_complete :
    (blocks0 ++ blocks1 ++ blocks2 ++ blocks3 ++ blocks4).map (·.1) = productHeaders ∧
    (((rows.flatMap unpack).map (·.1)).take productRowCodes.length == productRowCodes) = true := by
  constructor <;> decide +kernel

/-- The status the real builder reports for lists of a valid, b convertible-but-invalid and c failing
    entries (a, b, c < 4, two arrangements) is `statusOf`, all valid entries are emitted, and all 64
    count triples are present. -/
theorem status_grid_matches_spec :
    statusGrid.all statusRowOk = true ∧
    (List.range 4).all (fun a => (List.range 4).all fun b => (List.range 4).all fun c =>
      statusGrid.any fun r => r.1 == a && r.2.1 == b && r.2.2.1 == c) = true := by
  constructor <;> decide +kernel

/-- Absent, None and empty modifier info: nothing to do is a success without modifiers, as `build []`. -/
theorem empty_cases_match_spec :
    emptyCases.map (·.1) = [0, 1, 2, 3] ∧
    emptyCases.all (fun r => r.2.1 == (build []).status.code && r.2.2 == (build []).mods.length) = true := by
  constructor <;> decide +kernel

/-- The build view checked per row is the view of `build` on the one-entry list. -/
theorem buildView_eq (e : Entry) : buildView e = viewOf (convertEntry e) := by
  unfold buildView build convert
  cases h : convertEntry e with
  | none => simp [convert, viewOf, statusOf, Status.code]
  | some m => cases hv : valid m <;> simp [convert, viewOf, statusOf, Status.code, hv]

theorem convert_nil : convert [] = ([], 0) := rfl

theorem convert_cons (e : Entry) (es : List Entry) :
    convert (e :: es) = match convertEntry e with
      | some m => (m :: (convert es).1, (convert es).2)
      | none => ((convert es).1, (convert es).2 + 1) := by
  simp only [convert]; cases convertEntry e <;> rfl

/-- So the per-entry table lifts to every list: the converted modifiers are the per-entry outcomes in
    entry order, the failure count is the number of entries without outcome. -/
theorem convert_eq_filterMap (es : List Entry) :
    (convert es).1 = es.filterMap convertEntry ∧
    (convert es).2 = es.countP (fun e => (convertEntry e).isNone) := by
  induction es with
  | nil => exact ⟨rfl, rfl⟩
  | cons e es ih =>
    rw [convert_cons]
    cases h : convertEntry e <;> simp [h, ih.1, ih.2]

/-- Conversion of a concatenation: modifiers concatenate, failures add up. -/
theorem convert_append (a b : List Entry) :
    convert (a ++ b) = ((convert a).1 ++ (convert b).1, (convert a).2 + (convert b).2) := by
  simp only [Prod.ext_iff, convert_eq_filterMap, List.filterMap_append, List.countP_append, and_self]

/-- A well-formed entry (handled function, handled domain string, an operation the dict lookup finds — code
    -1..7, or a float or bool equal to one: the code's quirk —, every id the
    function reads convertible by `int()`) becomes the modifier with the corresponding filter, domain,
    operator and ids; it stacks and has no aggregate key. -/
theorem wellformed_one_modifier (f : Func) (dom : DomainField) (op : OpField) (g s t m : IdShape)
    (d : Domain) (x : Option Int) (tv mv : Int) (o : Operator)
    (hd : domainOf dom = some d) (hx : extraOf f g s = some x) (ht : t.toInt? = some tv)
    (ho : operatorOf op = some o) (hm : m.toInt? = some mv) :
    convertEntry (.dict (.known f) dom op g s t m) = some ⟨filterOf f, d, x, tv, o, .stack, none, mv⟩ := by
  simp [convertEntry, hd, hx, ht, ho, hm]

/-- Conversely a modifier only ever comes from such an entry, with exactly these fields. -/
theorem modifier_only_from_wellformed (e : Entry) (md : Modifier) (h : convertEntry e = some md) :
    ∃ f dom op g s t m, e = .dict (.known f) dom op g s t m ∧
      md.filter = filterOf f ∧ domainOf dom = some md.domain ∧ extraOf f g s = some md.extra ∧
      t.toInt? = some md.tgtAttr ∧ operatorOf op = some md.op ∧ m.toInt? = some md.srcAttr ∧
      md.agg = .stack ∧ md.aggKey = none := by
  cases e with
  | nonDict => simp [convertEntry] at h
  | dict fn dom op g s t m =>
    cases fn with
    | unknown => simp [convertEntry] at h
    | missing => simp [convertEntry] at h
    | known f =>
      refine ⟨f, dom, op, g, s, t, m, rfl, ?_⟩
      simp only [convertEntry] at h
      split at h
      · rename_i d x tv o mv hd hx ht ho hm
        cases h
        exact ⟨rfl, hd, hx, ht, ho, hm, rfl, rfl⟩
      · cases h

/-- The extra argument is the group id for `LocationGroupModifier`, the skill type id for the two
    skill-requirement functions, and absent for the two others (which ignore both fields). -/
theorem extraOf_spec (g s : IdShape) :
    extraOf .item g s = some none ∧ extraOf .location g s = some none ∧
    extraOf .locationGroup g s = g.toInt?.map some ∧
    extraOf .locationSkill g s = s.toInt?.map some ∧ extraOf .ownerSkill g s = s.toInt?.map some :=
  ⟨rfl, rfl, rfl, rfl, rfl⟩

/-- Function names, domain strings and operation codes mean what the vocabulary says. -/
theorem vocabulary :
    (filterOf .item = .item ∧ filterOf .location = .domain ∧ filterOf .locationGroup = .domainGroup ∧
      filterOf .locationSkill = .domainSkillrq ∧ filterOf .ownerSkill = .ownerSkillrq) ∧
    (domainOf .null = some .self ∧ domainOf .itemID = some .self ∧ domainOf .charID = some .character ∧
      domainOf .shipID = some .ship ∧ domainOf .targetID = some .target ∧ domainOf .otherID = some .other ∧
      domainOf .unknown = none ∧ domainOf .missing = none) ∧
    ([-1, 0, 1, 2, 3, 4, 5, 6, 7].map operatorOfCode = [some .preAssign, some .preMul, some .preDiv,
      some .modAdd, some .modSub, some .postMul, some .postDiv, some .postPercent, some .postAssign]) ∧
    (∀ c : Int, c < -1 ∨ 7 < c → operatorOfCode c = none) :=
  ⟨⟨rfl, rfl, rfl, rfl, rfl⟩, ⟨rfl, rfl, rfl, rfl, rfl, rfl, rfl, rfl⟩, by decide, operatorOfCode_none⟩

/-- The emitted modifiers are the entries' contributions in entry order: each entry yields at most one
    modifier, the order of the modifiers is the order of the entries. -/
theorem build_mods (es : List Entry) : (build es).mods = es.filterMap emitted := by
  simp only [build, (convert_eq_filterMap es).1, List.filter_filterMap]
  rfl

/-- Only modifiers that pass validation are emitted. -/
theorem only_valid_emitted (es : List Entry) : ∀ m ∈ (build es).mods, valid m = true :=
  fun _ hm => (List.mem_filter.mp hm).2

/-- Every entry is either emitted as exactly one modifier or counted as exactly one failure; `build` is
    a total function (no entry aborts it). -/
theorem malformed_counts_fail (es : List Entry) :
    (build es).mods.length + failures es = es.length := by
  rw [build_mods]; exact length_filterMap_add_countP emitted es

/-- A failing entry anywhere in the list does not disturb the modifiers of the other entries. -/
theorem failing_entry_is_skipped (a b : List Entry) (e : Entry) (h : emitted e = none) :
    (build (a ++ e :: b)).mods = (build (a ++ b)).mods ∧ failures (a ++ e :: b) = failures (a ++ b) + 1 := by
  simp [build_mods, failures, List.filterMap_append, h, List.countP_append]
  omega

/-- The two failure counters of the builder add up to `failures`. -/
theorem failure_counts (es : List Entry) :
    (convert es).2 + ((convert es).1.filter (fun m => !valid m)).length = failures es := by
  -- entries = converted + unconverted, converted = valid + invalid, entries = emitted + failures
  have h1 := length_filterMap_add_countP convertEntry es
  have h2 := List.length_eq_countP_add_countP valid (l := es.filterMap convertEntry)
  have h3 := malformed_counts_fail es
  simp only [List.countP_eq_length_filter, decide_not, Bool.decide_eq_true] at h2
  simp only [build, convert_eq_filterMap] at h3 ⊢
  omega

/-- Build status exactly according to the counts: success iff nothing failed (an empty list included),
    partial success iff something failed and something was emitted, error iff something failed and nothing
    was emitted; never skipped or custom. -/
theorem status_by_counts (es : List Entry) :
    ((build es).status = .success ↔ failures es = 0) ∧
    ((build es).status = .successPartial ↔ failures es ≠ 0 ∧ (build es).mods.length ≠ 0) ∧
    ((build es).status = .error ↔ failures es ≠ 0 ∧ (build es).mods.length = 0) ∧
    (build es).status ≠ .skipped ∧ (build es).status ≠ .custom := by
  have hf := failure_counts es
  simp only [build, statusOf] at *
  generalize (convert es).2 = a at *
  generalize ((convert es).1.filter fun m => !valid m).length = b at *
  generalize ((convert es).1.filter valid).length = n at *
  have hab : (a = 0 ∧ b = 0) ↔ failures es = 0 := hf ▸ Nat.add_eq_zero_iff.symm
  by_cases h0 : a = 0 ∧ b = 0
  · have := hab.mp h0
    simp [h0, this]
  · have : failures es ≠ 0 := fun h => h0 (hab.mpr h)
    by_cases hn : n = 0 <;> simp [h0, hn, this]

/-- With all entries well-formed and valid the build is a success with one modifier per entry. -/
theorem all_emitted_success (es : List Entry) (h : ∀ e ∈ es, (emitted e).isSome) :
    (build es).status = .success ∧ (build es).mods.length = es.length := by
  have hz : failures es = 0 := by
    simp only [failures, List.countP_eq_zero]
    intro e he
    simpa using Option.isSome_iff_ne_none.mp (h e he)
  refine ⟨(status_by_counts es).1.mpr hz, ?_⟩
  have := malformed_counts_fail es
  omega

/-- Which converted modifiers pass validation: an item filter on any domain, the three location filters
    on every domain but `other`, the owner filter on the character only. -/
theorem converted_valid_iff (e : Entry) (m : Modifier) (h : convertEntry e = some m) :
    valid m = true ↔
      (m.filter = .item ∨
       ((m.filter = .domain ∨ m.filter = .domainGroup ∨ m.filter = .domainSkillrq) ∧ m.domain ≠ .other) ∨
       (m.filter = .ownerSkillrq ∧ m.domain = .character)) := by
  obtain ⟨f, dom, op, g, s, t, mm, rfl, hf, -, hx, -, -, -, hagg, hkey⟩ := modifier_only_from_wellformed e m h
  obtain ⟨_, d, x, tv, o, _, _, mv⟩ := m
  subst hf hagg hkey
  rw [valid_converted hx]
  cases f <;> simp [okAt, filterOf]

example : convertEntry okEntry = some ⟨.domainGroup, .ship, some 55, 30, .postPercent, .stack, none, 41⟩ := by decide +kernel
example : (convertEntry invalidEntry).isSome = true ∧ emitted invalidEntry = none := by decide +kernel
example : convertEntry badEntry = none ∧ convertEntry .nonDict = none := by decide +kernel
example : build [okEntry, badEntry, okEntry, invalidEntry] =
    ⟨[⟨.domainGroup, .ship, some 55, 30, .postPercent, .stack, none, 41⟩,
      ⟨.domainGroup, .ship, some 55, 30, .postPercent, .stack, none, 41⟩], .successPartial⟩ := by decide +kernel
example : (build [badEntry, invalidEntry]).status = .error ∧ (build [okEntry]).status = .success ∧
    (build []).status = .success := by decide +kernel
example : failures [okEntry, badEntry, okEntry, invalidEntry] = 2 := by decide +kernel

end Eos.C19
