import EosModel.Codec
import EosModel.Loader
import EosGen.CodecLayout
import EosProofs.Lemmas.Codec
/-! # C15 — cache persistence is lossless and leaves no leftovers

`EosGen.CodecLayout` is regenerated on every run by calling the private compress/decompress methods of
`json_cache_handler.py` on sentinel objects.  The `gen_*` theorems compare its layout tables with the hand-written
ones (`Layout`, which `Inverse` shows to be bijections); the model functions the remaining theorems are about are
tied to the code on the sentinel objects only (`model_*_on_sentinels`).
`parse`/`ser` stand for bz2 + utf-8 + json; that they round-trip a tree up to `PV.norm`
(`hjson`) is the trusted assumption about those libraries. -/
namespace Eos.C15
open Eos.Codec Eos.Codec.PV Eos.Loader
open EosGen

/-- Every decompress method reads every field from where the specification says, with the
    specified coercion (`bool()` on flags, effect ids resolved through `get_effect`). -/
theorem gen_decompress_layouts_eq_spec :
    CodecLayout.modifierD = Layout.modifierD ∧ CodecLayout.buffD = Layout.buffD ∧ CodecLayout.attrD = Layout.attrD ∧
    CodecLayout.effectD = Layout.effectD ∧ CodecLayout.typeD = Layout.typeD := by decide +kernel

/-- Every compress method puts every field where the specification says (all five entities). -/
theorem gen_compress_layouts_eq_spec :
    CodecLayout.modifierC = Layout.modifierC ∧ CodecLayout.buffC = Layout.buffC ∧ CodecLayout.attrC = Layout.attrC ∧
    CodecLayout.effectC = Layout.effectC ∧ CodecLayout.typeC = Layout.typeC := by
  -- a regenerated compress table is, literal for literal, its decompress table without the tags (`h dᵢ` has it on the
  -- left, by `rfl`); the rows were compared in the theorem above, a second `decide` over them is as slow as the first
  obtain ⟨d1, d2, d3, d4, d5⟩ := gen_decompress_layouts_eq_spec
  have h {c d bools effs} (hd : d = Layout.withTags bools effs c) : d.map (fun r => (r.1, r.2.1)) = c :=
    hd ▸ Layout.withTags_fst ..
  exact ⟨h d1, h d2, h d3, h d4, h d5⟩

/-- `c` and `d` are inverse bijections between field leaves and tuple positions. -/
def Inverse (c : List (String × List Nat)) (d : List (String × List Nat × String)) : Prop :=
  d.map (fun r => (r.1, r.2.1)) = c ∧ (c.map (·.1)).Nodup ∧ (c.map (·.2)).Nodup

/-- The regenerated compress and decompress layouts are inverse bijections: no field is dropped,
    duplicated, or read from another field's position. -/
theorem gen_layouts_inverse :
    Inverse CodecLayout.modifierC CodecLayout.modifierD ∧ Inverse CodecLayout.buffC CodecLayout.buffD ∧
    Inverse CodecLayout.attrC CodecLayout.attrD ∧ Inverse CodecLayout.effectC CodecLayout.effectD ∧
    Inverse CodecLayout.typeC CodecLayout.typeD := by
  obtain ⟨c1, c2, c3, c4, c5⟩ := gen_compress_layouts_eq_spec
  obtain ⟨n1, n2, n3, n4, n5⟩ := Layout.spec_nodup
  exact ⟨⟨rfl, c1 ▸ n1⟩, ⟨rfl, c2 ▸ n2⟩, ⟨rfl, c3 ▸ n3⟩, ⟨rfl, c4 ▸ n4⟩, ⟨rfl, c5 ▸ n5⟩⟩

/-- The model's compress functions give, on the very sentinel objects, what the code gave. -/
theorem model_compress_on_sentinels :
    CodecLayout.modifierSentinels.map compressModifier = CodecLayout.modifierCompressOut ∧
    CodecLayout.buffSentinels.map compressBuff = CodecLayout.buffCompressOut ∧
    CodecLayout.attrSentinels.map compressAttr = CodecLayout.attrCompressOut ∧
    CodecLayout.effectSentinels.map compressEffect = CodecLayout.effectCompressOut ∧
    CodecLayout.typeSentinels.map compressType = CodecLayout.typeCompressOut :=
  ⟨rfl, rfl, rfl, rfl, rfl⟩

/-- ... and so do the decompress functions (inputs include one tree per flag with that position zeroed). -/
theorem model_decompress_on_sentinels :
    CodecLayout.modifierDecompressIn.map decompressModifier = CodecLayout.modifierDecompressOut.map some ∧
    CodecLayout.buffDecompressIn.map decompressBuff = CodecLayout.buffDecompressOut.map some ∧
    CodecLayout.attrDecompressIn.map decompressAttr = CodecLayout.attrDecompressOut.map some ∧
    CodecLayout.effectDecompressIn.map decompressEffect = CodecLayout.effectDecompressOut.map some ∧
    CodecLayout.typeDecompressIn.map (decompressType CodecLayout.typeStore) = CodecLayout.typeDecompressOut.map some :=
  ⟨rfl, rfl, rfl, rfl, rfl⟩

/-- What the json library does to each kind of value is what the specification lists ... -/
theorem gen_jsonNorm_eq_spec : CodecLayout.jsonNorm = Layout.jsonNorm := rfl

/-- ... and `PV.norm` implements that table (IntEnum → int, tuple → list, the rest kept). -/
theorem norm_kind (v : PV) : Layout.jsonNorm.lookup v.kind = some v.norm.kind := by
  cases v <;> simp only [PV.kind, PV.norm] <;> decide +kernel

/-- Per-entity losslessness, for all objects: decompressing what compression produced gives the object back (here the
    modifier; below buff template, attribute, effect, item type), also through the file (`_json`). -/
theorem decompress_compress_modifier (m : Modifier) : decompressModifier (compressModifier m) = some m :=
  rfl

/-- Through the file (JSON): the reader gets the modifier with enums as ints. -/
theorem decompress_compress_modifier_json (m : Modifier) :
    decompressModifier (compressModifier m).norm = some m.norm := by
  rw [decompressModifier_norm, decompress_compress_modifier]; rfl

theorem decompress_compress_buff (b : Buff) : decompressBuff (compressBuff b) = some b :=
  decompress_compress_buff' b

theorem decompress_compress_buff_json (b : Buff) : decompressBuff (compressBuff b).norm = some b.norm := by
  rw [decompressBuff_norm, decompress_compress_buff]; rfl

theorem decompress_compress_attr (a : Attr) : decompressAttr (compressAttr a) = some a :=
  decompress_compress_attr' a

theorem decompress_compress_attr_json (a : Attr) : decompressAttr (compressAttr a).norm = some a.norm := by
  rw [decompressAttr_norm, decompress_compress_attr]; rfl

/-- Effects with any number of modifiers. -/
theorem decompress_compress_effect (e : Effect) : decompressEffect (compressEffect e) = some e :=
  decompress_compress_effect' e

theorem decompress_compress_effect_json (e : Effect) : decompressEffect (compressEffect e).norm = some e.norm := by
  rw [decompressEffect_norm, decompress_compress_effect]; rfl

/-- Item types (attributes, effects, default effect or none, abilities incl. infinite charge counts,
    required skills), under the closedness guard `TypeOK`: the effects it mentions are in the storage. -/
theorem decompress_compress_type (store : Dict Effect) (t : EType) (h : TypeOK store t) :
    decompressType store (compressType t) = some t :=
  decompress_compress_type' store t h

theorem decompress_compress_type_json (store : Dict Effect) (t : EType) (h : TypeOK store t) :
    decompressType (Dict.norm Effect.norm store) (compressType t).norm = some t.norm := by
  rw [decompressType_norm, decompress_compress_type store t h]; rfl

/-- Error branch of the guard: an effect id the storage does not hold makes the type (hence the whole
    load, see C16) fail instead of producing a type without that effect. -/
theorem unknown_effect_rejected (store : Dict Effect) (t : EType) (p : PV × Effect) (hp : p ∈ t.effects)
    (h : getEffect store p.1 = none) : decompressType store (compressType t) = none := by
  have hm : (t.effects.map (·.1)).mapM (getEffect store) = none :=
    mapM_eq_none_of_mem h (List.mem_map_of_mem hp)
  simp [decompressType, compressType, index?, iter?, hm]

/-- After `update_cache o fp` with a closed object set the handler serves exactly the objects handed
    in, each under its id, the buff templates grouped by buff id, and `fp`; the call does not raise. -/
theorem served_after_update {β : Type} (ser : PV → β) (h : Handler β) (o : Objs) (fp : PV) (hc : Closed o)
    (g : Dict (List Buff)) (hg : groupBuffs o.buffs = some g) :
    updateCache ser h o fp =
      (⟨some (ser (cacheData o fp)), ⟨byId EType.id o.types, byId Attr.id o.attrs, byId Effect.id o.effects, g, fp⟩⟩, true) := by
  rw [updateCache, fill_eq, full_cacheData o fp hc, hg]; rfl

/-- Nothing is left over: whatever the handler held before (earlier updates, a loaded file), the
    outcome of `update_cache` is the one a brand-new handler would have — all four storages and the
    fingerprint come from this call only. -/
theorem update_replaces_everything {β : Type} (ser : PV → β) (h h' : Handler β) (o : Objs) (fp : PV)
    (hok : (updateCache ser h o fp).2 = true) : updateCache ser h o fp = updateCache ser h' o fp := by
  simp only [updateCache] at hok ⊢; rw [fill_eq h.mem] at hok ⊢; rw [fill_eq h'.mem]; revert hok
  cases full (cacheData o fp) with
  | none => exact fun hok => nomatch hok
  | some r => exact fun _ => rfl

/-- Writer = fresh reader: after `update_cache` the handler that wrote the file holds (up to JSON's
    enum→int / tuple→list) exactly what a new handler loads from that file.  If the call raised
    (object set not closed) the file loads as empty. -/
theorem memory_after_update_eq_load {β : Type} (ser : PV → β) (parse : β → Option PV)
    (hjson : ∀ j, parse (ser j) = some j.norm) (h : Handler β) (o : Objs) (fp : PV) :
    load parse (updateCache ser h o fp).1.file =
      match (updateCache ser h o fp).2 with
      | true => (updateCache ser h o fp).1.mem.norm
      | false => Mem.empty := by
  have hl : load parse (some (ser (cacheData o fp))) = ((full (cacheData o fp)).map Mem.norm).getD Mem.empty := by
    rw [load_eq, Option.bind_some, hjson, Option.bind_some, full_norm]
  simp only [updateCache]; rw [fill_eq]; revert hl
  cases full (cacheData o fp) <;> exact id

/-- The same for any sequence of `update_cache` calls on one handler (any earlier calls, raising or
    not, any initial state): only the last call matters. -/
theorem memory_eq_load_after_updates {β : Type} (ser : PV → β) (parse : β → Option PV)
    (hjson : ∀ j, parse (ser j) = some j.norm) (h : Handler β) (ups : List (Objs × PV)) (u : Objs × PV)
    (hok : (updateCache ser (runUpdates ser h ups) u.1 u.2).2 = true) :
    let final := runUpdates ser h (ups ++ [u])
    load parse final.file = final.mem.norm ∧ final = (updateCache ser ⟨none, Mem.empty⟩ u.1 u.2).1 := by
  have hrun : runUpdates ser h (ups ++ [u]) = (updateCache ser (runUpdates ser h ups) u.1 u.2).1 := by
    simp [runUpdates, List.foldl_append]
  have hm := memory_after_update_eq_load ser parse hjson (runUpdates ser h ups) u.1 u.2
  rw [hok] at hm
  exact ⟨by rw [hrun]; exact hm,
    by rw [hrun, update_replaces_everything ser _ ⟨none, Mem.empty⟩ u.1 u.2 hok]⟩

/-! ## Non-vacuity (concrete objects: enum-valued fields, an infinite charge count, a default effect) -/

def exMod : Modifier := ⟨.enum 1, .enum 2, .pnone, .int 30, .enum 6, .enum 0, .pnone, .int 31⟩
def exEffect : Effect := ⟨.int 5, .int 1, true, false, .int 40, .pnone, .pnone, .pnone, .pnone, .pnone, .pnone, .enum 2, [exMod]⟩
def exType : EType :=
  ⟨.int 7, .int 25, .int 6, [(.int 30, .real (5/2)), (.enum 31, .int 4)], [(.int 5, exEffect)], some exEffect,
   [(.int 22, ⟨.int 0, .inf⟩)], [(.int 3300, .int 5)]⟩
def exObjs : Objs := ⟨[exType], [⟨.int 30, .pnone, .real 0, true, false⟩], [exEffect], [⟨.int 11, .enum 1, .pnone, .int 30, .enum 6, .enum 0⟩]⟩

example : Closed exObjs := by
  refine ⟨?_, ?_, ?_, ?_⟩ <;> try (constructor <;> decide)
  intro t ht
  have : t = exType := by simpa [exObjs] using ht
  subst this
  refine ⟨?_, ?_, ?_, ?_, ?_, ?_⟩ <;> try (constructor <;> decide)
  · intro p hp
    have : p = (.int 5, exEffect) := by simpa [exType] using hp
    subst this; exact ⟨rfl, rfl⟩
  · intro e he
    have : exEffect = e := by simpa [exType] using he
    subst this; rfl

/-- The reader's view really differs from the writer's only by enum→int. -/
example : (decompressType (Dict.norm Effect.norm (byId Effect.id exObjs.effects)) (compressType exType).norm).map
    (fun t => (t.attrs.map (·.1), t.abilitiesData.map (·.2.chargeQuantity), t.defaultEffect.map (·.buildStatus)))
    = some ([.int 30, .int 31], [.inf], some (.int 2)) := rfl

/-- `update_cache` on an unclosed set raises in the model, as in the code. -/
example : (updateCache (β := PV) id ⟨none, Mem.empty⟩ ⟨[exType], [], [], []⟩ (.str "v_1")).2 = false := by decide +kernel

end Eos.C15
