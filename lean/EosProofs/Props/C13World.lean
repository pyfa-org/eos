import EosProofs.Props.C08World
import EosProofs.Lemmas.MicroRuns
/-! # C13, message level — the outcome of a set-up does not depend on its order; a re-target takes effect at once

`Props/C13.lean` has the specification-level characterisations (which items a projected modifier and a fleet boost
select) and, for the abstract cache machine, `setup_order_irrelevant_partial`, where legality of the removal sets is a
hypothesis.  At message level legality of what the handlers remove is a *theorem* (`C01World.micro_step_legal`) from
the side conditions of the messages — for a change of the configuration (`reconfig`) the side condition *is* legality
and stays a hypothesis — and the join to the specification's table is `C01World.world_read_eq_table_buff`; that the
final states are settled (`BuffSettled`) is a hypothesis throughout.  Two legal histories that end in settled states of
the same configuration observe the same values, the table's (`setup_order_irrelevant_world`); their final registers
need not be equal (recorded targets and registered warfare-buff modifiers of a boost are determined up to permutation
only).  The messages of a re-target, taken under their side conditions, extend a legal history to a legal history,
after which — if the state reached is settled — the table of the *new* configuration is observed
(`retarget_immediate_world`). -/
namespace Eos.C13World
open Eos.World Eos.Micro Eos.Micro.L Eos.DepCache Eos.Machine Eos.C01World

variable {u : Universe} {immune limited : List Int} {pen : Nat → Rat}

/-- **The outcome is independent of the set-up order.**  Two message histories `steps`, `steps'` — from
possibly different initial registers `d`, `d'` and configurations `cfg`, `cfg'`, both with nothing cached —
each satisfying the hypotheses of `C01World.world_read_eq_table_buff` (legal: `WRunOKE`; ending in a
`BuffSettled` state), whose final states have the *same configuration* (`hcfg`), observe the same value at
every configured item `x` and attribute `am` with metadata, namely the entry of the from-scratch table of that
configuration.  Nothing relates the two histories to each other: their lengths, the order of loads / starts /
applications / boost registrations, and the reads taken on the way are arbitrary.

That both final states are settled (`hset`, `hset'`) is assumed, and the theorem is
`C01World.world_read_eq_table_buff` applied to each history. -/
theorem setup_order_irrelevant_world (hwf : rankWF u = true) (hun : UniqueAttrs u) (hR : ResistWF u)
    (hnp : ∀ e ∈ u.effects, e.isBuff = true → e.category ≠ 2)
    {cfg cfg' : Config} {d d' : Dyn}
    (hU : UniqueIds cfg) (hC : ChargeWF cfg) (hT : TgtKinds cfg d)
    (hU' : UniqueIds cfg') (hC' : ChargeWF cfg') (hT' : TgtKinds cfg' d')
    (steps steps' : List WStep)
    (ok : WRunOKE u immune limited pen (worldGraph u immune limited pen hwf) ⟨cfg, d, fun _ => none⟩ steps)
    (ok' : WRunOKE u immune limited pen (worldGraph u immune limited pen hwf) ⟨cfg', d', fun _ => none⟩ steps')
    (sF sF' : MState)
    (hF : wrun u (worldGraph u immune limited pen hwf) ⟨cfg, d, fun _ => none⟩ steps = sF)
    (hF' : wrun u (worldGraph u immune limited pen hwf) ⟨cfg', d', fun _ => none⟩ steps' = sF')
    (hcfg : sF.cfg = sF'.cfg)
    (hset : BuffSettled u sF.cfg immune limited pen sF.dyn)
    (hset' : BuffSettled u sF'.cfg immune limited pen sF'.dyn)
    (hnz : ∀ entry ∈ evalAll u sF.cfg immune limited pen, entry.2 ≠ .divZero)
    {x : Item} (hx : x ∈ sF.cfg.items) {am : AttrMeta} (ham : am ∈ u.attrs) :
    observe (worldGraph u immune limited pen hwf) (toState sF) (x.id, am.id) =
      observe (worldGraph u immune limited pen hwf) (toState sF') (x.id, am.id) ∧
    observe (worldGraph u immune limited pen hwf) (toState sF) (x.id, am.id) =
      valToOption (World.read (evalAll u sF.cfg immune limited pen) x am.id) :=
  C08World.obs_item_order_irrelevant_world hwf hun hR hnp hU hC hT hU' hC' hT' steps steps' ok ok' sF sF' hF hF'
    (hcfg ▸ C08World.ItemsPerm.refl _) hset hset' hnz hx ham

/-- The same for **every** node of a configured item, whatever the attribute id: with metadata both
observations are the table's entry (`setup_order_irrelevant_world`), without metadata both are "no value". -/
theorem setup_order_irrelevant_world_all (hwf : rankWF u = true) (hun : UniqueAttrs u) (hR : ResistWF u)
    (hnp : ∀ e ∈ u.effects, e.isBuff = true → e.category ≠ 2)
    {cfg cfg' : Config} {d d' : Dyn}
    (hU : UniqueIds cfg) (hC : ChargeWF cfg) (hT : TgtKinds cfg d)
    (hU' : UniqueIds cfg') (hC' : ChargeWF cfg') (hT' : TgtKinds cfg' d')
    (steps steps' : List WStep)
    (ok : WRunOKE u immune limited pen (worldGraph u immune limited pen hwf) ⟨cfg, d, fun _ => none⟩ steps)
    (ok' : WRunOKE u immune limited pen (worldGraph u immune limited pen hwf) ⟨cfg', d', fun _ => none⟩ steps')
    (sF sF' : MState)
    (hF : wrun u (worldGraph u immune limited pen hwf) ⟨cfg, d, fun _ => none⟩ steps = sF)
    (hF' : wrun u (worldGraph u immune limited pen hwf) ⟨cfg', d', fun _ => none⟩ steps' = sF')
    (hcfg : sF.cfg = sF'.cfg)
    (hset : BuffSettled u sF.cfg immune limited pen sF.dyn)
    (hset' : BuffSettled u sF'.cfg immune limited pen sF'.dyn)
    (hnz : ∀ entry ∈ evalAll u sF.cfg immune limited pen, entry.2 ≠ .divZero)
    {x : Item} (hx : x ∈ sF.cfg.items) (a : Int) :
    observe (worldGraph u immune limited pen hwf) (toState sF) (x.id, a) =
      observe (worldGraph u immune limited pen hwf) (toState sF') (x.id, a) := by
  cases ha : attrMeta? u a with
  | some am =>
    have := (setup_order_irrelevant_world hwf hun hR hnp hU hC hT hU' hC' hT' steps steps' ok ok' sF sF' hF hF'
      hcfg hset hset' hnz hx (attrMeta?_mem ha)).1
    rwa [attrMeta?_id ha] at this
  | none =>
    subst hF; subst hF'
    rw [observe_eq_spec _ _ (world_inv_run hwf hun hR hU hC hT steps ok).good,
      observe_eq_spec _ _ (world_inv_run hwf hun hR hU' hC' hT' steps' ok').good]
    exact (spec_no_meta hwf _ ha).trans (spec_no_meta hwf _ ha).symm

/-- Any legal continuation of a legal history is observed from scratch.  `steps` is a legal history from an
empty cache, `more` a list of further events taken under their side conditions in the state `steps` reaches
(`ok2`).  Then `steps ++ more` is a legal history, and if it ends in a settled state every read observes the
table of the final configuration; a read event `S` taken there stores exactly that value for the node if it covers
it (`hS`). -/
theorem extend_history_world (hwf : rankWF u = true) (hun : UniqueAttrs u) (hR : ResistWF u)
    (hnp : ∀ e ∈ u.effects, e.isBuff = true → e.category ≠ 2)
    {cfg : Config} {d : Dyn} (hU : UniqueIds cfg) (hC : ChargeWF cfg) (hT : TgtKinds cfg d)
    (steps more : List WStep)
    (ok : WRunOKE u immune limited pen (worldGraph u immune limited pen hwf) ⟨cfg, d, fun _ => none⟩ steps)
    (ok2 : WRunOKE u immune limited pen (worldGraph u immune limited pen hwf)
      (wrun u (worldGraph u immune limited pen hwf) ⟨cfg, d, fun _ => none⟩ steps) more)
    (sF : MState)
    (hF : wrun u (worldGraph u immune limited pen hwf)
      (wrun u (worldGraph u immune limited pen hwf) ⟨cfg, d, fun _ => none⟩ steps) more = sF)
    (hset : BuffSettled u sF.cfg immune limited pen sF.dyn)
    (hnz : ∀ entry ∈ evalAll u sF.cfg immune limited pen, entry.2 ≠ .divZero)
    {x : Item} (hx : x ∈ sF.cfg.items) {am : AttrMeta} (ham : am ∈ u.attrs) :
    WRunOKE u immune limited pen (worldGraph u immune limited pen hwf) ⟨cfg, d, fun _ => none⟩ (steps ++ more) ∧
    observe (worldGraph u immune limited pen hwf) (toState sF) (x.id, am.id) =
      valToOption (World.read (evalAll u sF.cfg immune limited pen) x am.id) ∧
    ∀ S : Node → Bool, S (x.id, am.id) = true →
      (wstep u (worldGraph u immune limited pen hwf) sF (.read S)).cache (x.id, am.id) =
        valToOption (World.read (evalAll u sF.cfg immune limited pen) x am.id) := by
  have okA := (wrunOKE_append _ _ steps more).2 ⟨ok, ok2⟩
  have hFA : wrun u (worldGraph u immune limited pen hwf) ⟨cfg, d, fun _ => none⟩ (steps ++ more) = sF := by
    rw [wrun_append]; exact hF
  have hobs := world_read_eq_table_buff hwf hun hR hnp hU hC hT (steps ++ more) okA sF hFA hset hnz hx ham
  refine ⟨okA, hobs, fun S hS => ?_⟩
  have hsp := observe_eq_spec _ _ (hFA ▸ world_inv_run hwf hun hR hU hC hT (steps ++ more) okA).good (x.id, am.id)
  rw [wstep_read_cache, if_pos hS, ← hobs]
  exact hsp.symm

/-- What the setter `SingleTargetableMixin.target` (`eos/item/mixin/targetable.py`) publishes for item `i` whose running
projectable effects are `es`: `EffectUnapplied` of each from the old target, the change of the target field (`cfg'`; a
change of the static configuration that the service sees only through the messages around it), `EffectApplied` of each
to the new target.  Nothing here requires `old` to be what is recorded — that is part of the side conditions under
which the messages are taken. -/
def retarget (cfg' : Config) (i : Nat) (es : List Int) (old new : List Nat) : List WStep :=
  es.map (fun e => .micro (.unapply i e old)) ++ .micro (.reconfig cfg') ::
    es.map (fun e => .micro (.apply i e new))

theorem retarget_cfg (W : Config × Dyn → Graph Node Rat) (cfg' : Config) (i : Nat) (es : List Int)
    (old new : List Nat) (s : MState) : (wrun u W s (retarget cfg' i es old new)).cfg = cfg' := by
  unfold retarget
  have h : es.map (fun e => WStep.micro (.apply i e new)) = (es.map fun e => MStep.apply i e new).map .micro :=
    (List.map_map ..).symm
  rw [wrun_append, h]
  show (wrun u W (mstep u _ (.reconfig cfg')) ((es.map fun e => MStep.apply i e new).map .micro)).cfg = cfg'
  rw [wrun_micro, mrun_cfg _ _ fun st hst c hc => by obtain ⟨e, _, rfl⟩ := List.mem_map.1 hst; cases hc]
  rfl

/-- **A re-target takes effect at once.**  In any state reached by a legal history, the messages of a
re-target taken under their side conditions (`ok2`: non-zero divisors around each un-apply and apply, the
new targets are solar-system items, the configuration change is well-formed and *invisible to what is cached
after the un-applies* — this last clause is the legality of the `reconfig` step, assumed, not derived from the shape
of the change) leave a state in which — provided it is the settled state of the new configuration (`hset`, assumed
as well) — every read observes the from-scratch table of the *new* configuration, and a public read stores it.
The message list `retarget …` itself contributes `sF.cfg = cfg'`; the rest is `extend_history_world`. -/
theorem retarget_immediate_world (hwf : rankWF u = true) (hun : UniqueAttrs u) (hR : ResistWF u)
    (hnp : ∀ e ∈ u.effects, e.isBuff = true → e.category ≠ 2)
    {cfg : Config} {d : Dyn} (hU : UniqueIds cfg) (hC : ChargeWF cfg) (hT : TgtKinds cfg d)
    (steps : List WStep)
    (ok : WRunOKE u immune limited pen (worldGraph u immune limited pen hwf) ⟨cfg, d, fun _ => none⟩ steps)
    (cfg' : Config) (i : Nat) (es : List Int) (old new : List Nat)
    (ok2 : WRunOKE u immune limited pen (worldGraph u immune limited pen hwf)
      (wrun u (worldGraph u immune limited pen hwf) ⟨cfg, d, fun _ => none⟩ steps) (retarget cfg' i es old new))
    (sF : MState)
    (hF : wrun u (worldGraph u immune limited pen hwf)
      (wrun u (worldGraph u immune limited pen hwf) ⟨cfg, d, fun _ => none⟩ steps) (retarget cfg' i es old new) = sF)
    (hset : BuffSettled u cfg' immune limited pen sF.dyn)
    (hnz : ∀ entry ∈ evalAll u cfg' immune limited pen, entry.2 ≠ .divZero)
    {x : Item} (hx : x ∈ cfg'.items) {am : AttrMeta} (ham : am ∈ u.attrs) :
    sF.cfg = cfg' ∧
    WRunOKE u immune limited pen (worldGraph u immune limited pen hwf) ⟨cfg, d, fun _ => none⟩
      (steps ++ retarget cfg' i es old new) ∧
    observe (worldGraph u immune limited pen hwf) (toState sF) (x.id, am.id) =
      valToOption (World.read (evalAll u cfg' immune limited pen) x am.id) ∧
    ∀ S : Node → Bool, S (x.id, am.id) = true →
      (wstep u (worldGraph u immune limited pen hwf) sF (.read S)).cache (x.id, am.id) =
        valToOption (World.read (evalAll u cfg' immune limited pen) x am.id) := by
  have hc : sF.cfg = cfg' := by rw [← hF]; exact retarget_cfg _ _ _ _ _ _ _
  obtain ⟨h1, h3, h4⟩ := extend_history_world hwf hun hR hnp hU hC hT steps _ ok ok2 sF hF
    (hc ▸ hset) (hc ▸ hnz) (hc ▸ hx) ham
  rw [hc] at h3 h4
  exact ⟨hc, h1, h3, h4⟩

/-! Two set-up orders of the fleet of `C01World`.  `C01World.fleetHist`: the boost effect starts, the service registers the buff and applies it to ships 1 and 3 in
one `EffectApplied`, ship 3's attribute 37 is read.  `fleetHist2` reaches the same configuration differently:
after the start the un-boosted value of ship 3 is read (and cached: 100), the buff is registered, the boost is
applied to ship 3 first and to ship 1 in a second `EffectApplied` (which has to invalidate the cached 100),
then the read.  Both are legal and end `BuffSettled` — with *different* registers (recorded targets `[1, 3]` and
`[3, 1]`) —, so the theorem applies: both observe the table's entry, 150. -/

def fleetHist2 : List WStep :=
  [.micro (.start 2 [2000]), .read fun n => n == (3, 37),
   .micro (.unapply 2 2000 []), .micro (.buffset 2 2000 [fleetBM]),
   .micro (.apply 2 2000 [3]), .micro (.apply 2 2000 [1]),
   .read fun n => n == (3, 37) || n == (2, 2469)]

theorem fleet2_runOK : WRunOKE fleetU specImmune specLimited fleetPen fleetW fleetS0 fleetHist2 :=
  wrunOKE_of_errorFree _ _ _ (by unfold ErrorFree; decide +kernel)
    ⟨fun _ _ => rfl, legal_read_of_closed _ _ [(3, 37)] (by simp) (by decide +kernel), trivial, rfl,
      solsys_of_all (by decide), solsys_of_all (by decide),
      legal_read_of_closed _ _ [(3, 37), (2, 2469)] (by simp) (by decide +kernel), trivial⟩

/-- The end state of the second history is `BuffSettled` as well; its recorded targets are `[3, 1]`, a
permutation of the specification's `boostTargets`. -/
theorem fleet2_hset : BuffSettled fleetU (wrun fleetU fleetW fleetS0 fleetHist2).cfg specImmune specLimited fleetPen
    (wrun fleetU fleetW fleetS0 fleetHist2).dyn :=
  fleet_settled_of rfl rfl (by decide +kernel)
    ((List.Perm.of_eq (by decide +kernel : _ = [3, 1])).trans (.swap 1 3 []))

theorem fleet_cfg : (wrun fleetU fleetW fleetS0 fleetHist).cfg = fleetCfg := rfl
theorem fleet2_cfg : (wrun fleetU fleetW fleetS0 fleetHist2).cfg = fleetCfg := rfl

example :
    observe fleetW (toState (wrun fleetU fleetW fleetS0 fleetHist)) (3, 37) =
      observe fleetW (toState (wrun fleetU fleetW fleetS0 fleetHist2)) (3, 37) ∧
    observe fleetW (toState (wrun fleetU fleetW fleetS0 fleetHist)) (3, 37) =
      valToOption (World.read (evalAll fleetU fleetCfg specImmune specLimited fleetPen) fleetShip3 37) :=
  setup_order_irrelevant_world fleet_wf.1 fleet_wf.2.1 fleet_wf.2.2.1 fleet_hnp
    fleet_wf.2.2.2.1 fleet_wf.2.2.2.2.1 fleet_wf.2.2.2.2.2 fleet_wf.2.2.2.1 fleet_wf.2.2.2.2.1 fleet_wf.2.2.2.2.2
    fleetHist fleetHist2 fleet_runOK fleet2_runOK _ _ rfl rfl (fleet_cfg.trans fleet2_cfg.symm) fleet_hset fleet2_hset fleet_evalAll.1
    (x := fleetShip3) (List.mem_cons_of_mem _ (List.mem_cons_of_mem _ List.mem_cons_self))
    (am := ⟨37, none, none, true, true⟩) (List.mem_cons_of_mem _ (List.mem_cons_of_mem _ List.mem_cons_self))

/-- Both read 150; the registers the two orders leave differ; the second history had the un-boosted 100 cached
on the way, and the second `EffectApplied` is not needed for ship 3 but must not lose ship 1. -/
example :
    observe fleetW (toState (wrun fleetU fleetW fleetS0 fleetHist)) (3, 37) = some 150 ∧
    observe fleetW (toState (wrun fleetU fleetW fleetS0 fleetHist2)) (3, 37) = some 150 ∧
    World.read (evalAll fleetU fleetCfg specImmune specLimited fleetPen) fleetShip3 37 = .ok 150 ∧
    (wrun fleetU fleetW fleetS0 fleetHist).dyn.tgts 2 2000 = [1, 3] ∧
    (wrun fleetU fleetW fleetS0 fleetHist2).dyn.tgts 2 2000 = [3, 1] ∧
    (wrun fleetU fleetW fleetS0 (fleetHist2.take 2)).cache (3, 37) = some 100 :=
  ⟨observe_of_cached fleet_cache, by decide +kernel, fleet_evalAll.2.2, by decide +kernel⟩

/-- The same at a node no read of either history covers, ship 1's attribute 37: the theorem gives the table's
entry for both. -/
example :
    observe fleetW (toState (wrun fleetU fleetW fleetS0 fleetHist)) (1, 37) =
      observe fleetW (toState (wrun fleetU fleetW fleetS0 fleetHist2)) (1, 37) ∧
    observe fleetW (toState (wrun fleetU fleetW fleetS0 fleetHist2)) (1, 37) = some 150 := by
  have h := setup_order_irrelevant_world fleet_wf.1 fleet_wf.2.1 fleet_wf.2.2.1 fleet_hnp
    fleet_wf.2.2.2.1 fleet_wf.2.2.2.2.1 fleet_wf.2.2.2.2.2 fleet_wf.2.2.2.1 fleet_wf.2.2.2.2.1 fleet_wf.2.2.2.2.2
    fleetHist fleetHist2 fleet_runOK fleet2_runOK _ _ rfl rfl (fleet_cfg.trans fleet2_cfg.symm) fleet_hset
    fleet2_hset fleet_evalAll.1 (x := fleetShip1) List.mem_cons_self fleet_attr37
  exact ⟨h.1, h.1.symm.trans (h.2.trans (congrArg valToOption fleet_evalAll.2.1))⟩

/-! The universe `settleU` of `Lemmas/MicroSettle.lean` (a mid-slot module with two running projectable effects, each
with a local modifier on the ship of its own fit and a projected one on its target) with a second fit: ship 1 and
the module in fit 0, ship 3 in fit 1.  History `retHist`: the module's effects start and are applied to its target,
ship 1.  Re-target to ship 3 (`retarget (retCfg 3) 2 [1000, 1001] [1] [3]`): both effects are un-applied from ship
1, the target field changes, both are applied to ship 3.  Every hypothesis of the theorem holds — the `reconfig`
clause trivially: `retHist` has no read, so nothing is cached at the re-target and no cached value of the old target
has to be invalidated (`fleetHist2` above is where a cached value is invalidated by an apply) —; afterwards ship 3 reads
100 · 3/2 · 3/2 = 225 (the projected modifiers only) and ship 1 reads 100 + 3/2 − 3/2 = 100 (the local modifiers
only), where the table of the old configuration had 225. -/

def retShip3 : Item := ⟨3, .ship, 1, 1, 1, none, none, none, []⟩
def retMod (t : Nat) : Item := ⟨2, .moduleMid, 2, 0, 3, none, some t, none, [(1001, 3)]⟩
def retCfg (t : Nat) : Config :=
  { hasSource := true, fits := [⟨0, some 1, none, none⟩, ⟨1, some 3, none, none⟩],
    items := [settleShip, retMod t, retShip3] }
def retD0 : Dyn :=
  { loaded := fun i => i == 1 || i == 2 || i == 3, on := fun _ _ => false, tgts := fun _ _ => [] }
def retS0 : MState := ⟨retCfg 1, retD0, fun _ => none⟩
def retHist : List WStep :=
  [.micro (.start 2 [1000, 1001]), .micro (.apply 2 1000 [1]), .micro (.apply 2 1001 [1])]
abbrev retS1 : MState := wrun settleU settleW retS0 retHist
abbrev retSF : MState := wrun settleU settleW retS1 (retarget (retCfg 3) 2 [1000, 1001] [1] [3])

theorem ret_item2 (t : Nat) : item? (retCfg t) 2 = some (retMod t) := rfl

theorem ret_wf (t : Nat) : UniqueIds (retCfg t) ∧ ChargeWF (retCfg t) :=
  ⟨by unfold UniqueIds; show List.Nodup [1, 2, 3]; decide, chargeWF_of_all rfl⟩

theorem ret_runOK : WRunOKE settleU specImmune specLimited (fun _ => 1) settleW retS0 retHist :=
  wrunOKE_of_errorFree _ _ _ (by unfold ErrorFree; decide +kernel)
    ⟨fun _ _ => rfl, solsys_of_all (by decide), solsys_of_all (by decide), trivial⟩

theorem ret_retargetOK : WRunOKE settleU specImmune specLimited (fun _ => 1) settleW retS1
    (retarget (retCfg 3) 2 [1000, 1001] [1] [3]) := by
  refine wrunOKE_of_errorFree _ _ _ (by unfold ErrorFree; decide +kernel)
    ⟨trivial, trivial, ⟨(ret_wf 3).1, (ret_wf 3).2, tgtKinds_of_nil fun a e => ?_, fun n h => absurd ?_ h⟩,
      solsys_of_all (by decide), solsys_of_all (by decide), trivial⟩
  · -- nothing is recorded any more
    show (if a = 2 ∧ e = 1001 then [] else if a = 2 ∧ e = 1000 then [] else
      if a = 2 ∧ e = 1001 then [1] else if a = 2 ∧ e = 1000 then [1] else ([] : List Nat)) = []
    by_cases h1 : a = 2 ∧ e = 1001
    · rw [if_pos h1]
    · by_cases h2 : a = 2 ∧ e = 1000
      · rw [if_neg h1, if_pos h2]
      · rw [if_neg h1, if_neg h2, if_neg h1, if_neg h2]
  · -- nothing is cached: the history has no read
    exact Cascade.mono_none (mrun_sub (u := settleU)
      [.start 2 [1000, 1001], .apply 2 1000 [1], .apply 2 1001 [1], .unapply 2 1000 [1], .unapply 2 1001 [1]]
      retS0).mono rfl

theorem ret_dynFin0 : DynFin settleU retS0.cfg retS0.dyn :=
  dynFin_idle fun i hi => by
    have : i = 1 ∨ i = 2 ∨ i = 3 := by simpa [or_assoc] using hi
    rcases this with rfl | rfl | rfl <;> decide

theorem ret_hset : retSF.dyn = derivedDyn settleU (retCfg 3) :=
  (dynFin_wrun settleW _ retS1 (dynFin_wrun settleW retHist retS0 ret_dynFin0 (by decide)) (by decide)).ext
    (dynFin_derivedDyn (by decide)) (by decide +kernel)

/-- `retarget_immediate_world` applies: after the re-target both ships are observed as the table of the new
configuration has them — the new target 225, the old target 100 (225 in the table of the old configuration). -/
example :
    observe settleW (toState retSF) (3, 37) =
      valToOption (World.read (evalAll settleU (retCfg 3) specImmune specLimited (fun _ => 1)) retShip3 37) ∧
    observe settleW (toState retSF) (1, 37) =
      valToOption (World.read (evalAll settleU (retCfg 3) specImmune specLimited (fun _ => 1)) settleShip 37) ∧
    World.read (evalAll settleU (retCfg 3) specImmune specLimited (fun _ => 1)) retShip3 37 = .ok 225 ∧
    World.read (evalAll settleU (retCfg 3) specImmune specLimited (fun _ => 1)) settleShip 37 = .ok 100 ∧
    World.read (evalAll settleU (retCfg 1) specImmune specLimited (fun _ => 1)) settleShip 37 = .ok 225 := by
  have hT : TgtKinds (retCfg 1) retD0 := tgtKinds_of_nil fun _ _ => rfl
  have hset : BuffSettled settleU (retCfg 3) specImmune specLimited (fun _ => 1) retSF.dyn := by
    rw [ret_hset]; exact buffSettled_derived settle_noBuff
  have h := fun (x : Item) (hx : x ∈ (retCfg 3).items) =>
    (retarget_immediate_world settle_rank settle_wf.1 settle_wf.2.1 (hnp_of_noBuff settle_noBuff) (ret_wf 1).1
      (ret_wf 1).2 hT retHist ret_runOK (retCfg 3) 2 [1000, 1001] [1] [3] ret_retargetOK retSF rfl hset
      (by decide +kernel) hx (am := ⟨37, none, none, true, true⟩) (List.mem_cons_of_mem _ List.mem_cons_self)).2.2.1
  exact ⟨h retShip3 (by simp [retCfg]), h settleShip (by simp [retCfg]), by decide +kernel⟩

end Eos.C13World
