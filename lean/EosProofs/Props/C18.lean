import EosModel.Cleaner
import EosGen.CleanerRefs
import EosProofs.Lemmas.Cleaner
/-! # C18 — the data build keeps exactly what is reachable and leaves nothing dangling

`EosGen/CleanerRefs.lean` (namespace `EosGen.Cleaner`) is regenerated on every run by running the real
`Cleaner`, `Converter`, `ValidatorPreClean`, `Normalizer` and `ValidatorPreConv` of /repo on
minimal data sets; the `gen_*_eq_spec` theorems tie the fixed hand-written specification
(`specRefs`, `specAux`, ...) the other theorems are about to what the code does now.
All theorems hold for every raw data set (no bound on the number of rows, on ids or on the
shape of the reference graph). -/
namespace Eos.C18
open Eos.Cleaner

/-- The effective reference relation of `Cleaner` (every edge observed by running it) is the documented one. -/
theorem gen_refs_eq_spec :
    (∀ r ∈ EosGen.Cleaner.cleanerRefs, r ∈ specRefs) ∧ (∀ r ∈ specRefs, r ∈ EosGen.Cleaner.cleanerRefs) := by
  decide +kernel

/-- The auxiliary tables are the four type-complementing tables. -/
theorem gen_aux_eq_spec : EosGen.Cleaner.auxTables = specAux := rfl

/-- "Supported categories and groups": what `_pump_evetypes` marks strong is charge, drone, fighter, implant,
    module, ship, skill, subsystem and the groups character and effect beacon. -/
theorem gen_strong_eq_spec :
    EosGen.Cleaner.strongCategories = specStrongCategories ∧ EosGen.Cleaner.strongGroups = specStrongGroups :=
  ⟨rfl, rfl⟩

/-- Every field the converter / modifier builder / buff template builder puts into an id slot of a built
    object is one the specification lists ... -/
theorem gen_conv_eq_spec :
    (∀ r ∈ EosGen.Cleaner.converterIdRefs, r ∈ specConvRefs) ∧
      (∀ r ∈ specConvRefs, r ∈ EosGen.Cleaner.converterIdRefs) := by
  decide +kernel

theorem spec_refs_cover_converter : ∀ c ∈ specConvRefs, c ∈ specRefs :=
  fun _ hc => specConvRefs_sublist.subset hc

/-- ... and is followed by the cleaner. -/
theorem refs_cover_converter : ∀ c ∈ EosGen.Cleaner.converterIdRefs, c ∈ specRefs :=
  fun c hc => spec_refs_cover_converter c (gen_conv_eq_spec.1 c hc)

/-- The primary-key columns `ValidatorPreClean` checks are the specified ones. -/
theorem gen_pk_eq_spec : EosGen.Cleaner.pkCols = allTables.map fun t => (t, specPk t) := rfl

/-- The evetypes fields `Normalizer` files as attributes, and under which ids. -/
theorem gen_norm_eq_spec : EosGen.Cleaner.normAttrs = specNormAttrs := rfl

/-- The effects of which `_colliding_module_racks` keeps one per type: lo, hi, med power. -/
theorem gen_rack_eq_spec : EosGen.Cleaner.rackEffects = specRackEffects := rfl

/-- The rows the cleaner can restore: reachable from a strong row through the auxiliary-table rule and the
    reference relation, inside the data. -/
abbrev Reachable (d : List Row) : Row → Prop :=
  Reach (auxEdge specAux) (refEdge specRefs) (isStrong d) d

/-- Which rows are strong: item types whose group is character / effect beacon or belongs to a supported category. -/
theorem strong_iff (d : List Row) (r : Row) : isStrong d r = true ↔
    r.tbl = .evetypes ∧
      ((∃ g ∈ specStrongGroups, Val.pyEq (r.get "groupID") (Val.ofInt g) = true) ∨
       ∃ grp ∈ d, grp.tbl = .evegroups ∧
         (∃ c ∈ specStrongCategories, Val.pyEq (grp.get "categoryID") (Val.ofInt c) = true) ∧
         Val.pyEq (r.get "groupID") (grp.get "groupID") = true) := by
  simp only [isStrong, strongGroupIds, Bool.and_eq_true, decide_eq_true_eq, List.any_eq_true,
    List.mem_append, List.mem_map, List.mem_filter]
  constructor
  · rintro ⟨h, g, (⟨i, hi, rfl⟩ | ⟨grp, ⟨hgrp, ht, c, hc, hcat⟩, rfl⟩), hg⟩
    · exact ⟨h, Or.inl ⟨i, hi, hg⟩⟩
    · exact ⟨h, Or.inr ⟨grp, hgrp, ht, ⟨c, hc, hcat⟩, hg⟩⟩
  · rintro ⟨h, (⟨i, hi, hg⟩ | ⟨grp, hgrp, ht, ⟨c, hc, hcat⟩, hg⟩)⟩
    · exact ⟨h, _, Or.inl ⟨i, hi, rfl⟩, hg⟩
    · exact ⟨h, _, Or.inr ⟨grp, ⟨hgrp, ht, c, hc, hcat⟩, rfl⟩, hg⟩

/-- The restore loop stops within its fuel (each productive turn restores at least one row, so `d.length`
    turns suffice): the result is a fixed point of a whole turn and more fuel changes nothing. -/
theorem clean_terminates (d : List Row) :
    round (auxEdge specAux) (refEdge specRefs) d (clean d) = clean d ∧
      ∀ k, iter (auxEdge specAux) (refEdge specRefs) d (d.length + k) (d.filter (isStrong d)) = clean d := by
  refine ⟨cleanG_fix, fun k => ?_⟩
  rw [iter_add]
  exact iter_of_stall (congrArg List.length (cleanG_fix (strong := isStrong d))) k

/-- Every turn that is not the last one restores at least one row. -/
theorem clean_productive (d live : List Row) (h : IsFilt d live) :
    live.length ≤ (round (auxEdge specAux) (refEdge specRefs) d live).length ∧
      ((round (auxEdge specAux) (refEdge specRefs) d live).length = live.length →
        round (auxEdge specAux) (refEdge specRefs) d live = live) :=
  round_productive h

/-- Every item type of the supported categories and groups is kept. -/
theorem strong_kept (d : List Row) : ∀ r ∈ d, isStrong d r = true → r ∈ clean d :=
  fun _ hr hs => mem_cleanG_iff.2 (Reach.base hr hs)

/-- Closure: a kept row never points at a trashed row, neither through a reference (group, attribute, effect,
    skill type, autocharge type, buff, modifier-info and buff-modifier ids) nor through the auxiliary rule. -/
theorem clean_closed (d : List Row) : ∀ s ∈ clean d, ∀ r ∈ d,
    (refEdge specRefs s r = true ∨ auxEdge specAux s r = true) → r ∈ clean d :=
  fun _ hs _ hr he => cleanG_closed hs hr he.symm

/-- Only rows of the data are kept, each at most as often as it occurs, in the original order. -/
theorem clean_sublist (d : List Row) : (clean d).Sublist d := by
  rw [clean, cleanWith, cleanG_eq_filter]; exact List.filter_sublist

/-- Exactly what is reachable is kept: nothing unreferenced survives, nothing referenced is lost.  (This is the
    characterisation of the kept set; that it is the least closed set is `clean_least`.) -/
theorem clean_minimal (d : List Row) (r : Row) : r ∈ clean d ↔ Reachable d r := mem_cleanG_iff

/-- The kept set is the least set of rows that contains the strong rows and is closed under the rules. -/
theorem clean_least (d : List Row) (S : Row → Prop)
    (hstrong : ∀ r ∈ d, isStrong d r = true → S r)
    (hclosed : ∀ s r, S s → r ∈ d → (refEdge specRefs s r = true ∨ auxEdge specAux s r = true) → S r) :
    ∀ r ∈ clean d, S r :=
  fun _ hr => (mem_cleanG_iff.1 hr).least hstrong fun s r hs hr he => hclosed s r hs hr he.symm

/-- Set semantics: storing the rows in another order (hash iteration order of the Python sets) gives the
    same kept rows. -/
theorem clean_order_independent (d d' : List Row) (h : d.Perm d') : (clean d).Perm (clean d') := by
  have hs : isStrong d = isStrong d' := by
    funext r
    simp only [isStrong, strongGroupIds]
    rw [(((h.filter _).map _).append_left _).any_eq]
  show (cleanG _ _ (isStrong d) d).Perm (cleanG _ _ (isStrong d') d')
  rw [hs]
  exact cleanG_perm h

/-- Running "broken relationships" before "auxiliary friends" in every turn gives the same result. -/
theorem clean_phase_order_independent (d : List Row) :
    cleanG (refEdge specRefs) (auxEdge specAux) (isStrong d) d = clean d := cleanG_swap

/-- Primary keys: for every key exactly the first row in the list (rows are kept in `table_pos` order) that has it survives; rows without a
    complete Integral key do not survive at all. -/
theorem pk_first_wins (rows : List Row) (k : Tbl × List Rat) :
    (preclean rows).filter (fun r => decide (pkOf r = some k)) =
      (rows.find? fun r => decide (pkOf r = some k)).toList := by
  unfold preclean
  rw [firstWins_filter_key (by intro r r' h; cases h) k]
  simp only [List.not_mem_nil, if_false, List.find?_filter]
  congr 2
  funext r
  by_cases h : pkOf r = some k <;> simp [h]

/-- Every surviving row has a complete Integral primary key. -/
theorem pk_valid (rows : List Row) : ∀ r ∈ preclean rows, (pkOf r).isSome = true := by
  exact fun _ hr => (List.mem_filter.1 ((firstWins_drop_sublist _ _).subset hr)).2

/-- The surviving rows are a sub-list of the raw rows (nothing invented, order kept). -/
theorem preclean_sublist (rows : List Row) : (preclean rows).Sublist rows :=
  (firstWins_drop_sublist _ _).trans List.filter_sublist

/-- Surplus default effects: of the rows of one type that claim to be the default, the first one in the list
    (`table_pos` order) keeps the claim. -/
theorem default_effect_first_wins (l : List Row) (t : Rat) :
    (multipleDefaultEffects l).filter (fun r => decide (defaultKey r = some t)) =
      (l.find? fun r => decide (defaultKey r = some t)).toList := by
  unfold multipleDefaultEffects
  rw [firstWins_filter_key (fun r _ h => Option.some.inj h ▸ demote_unkeyed r) t]; simp

/-- Surplus rack effects: of the hi / med / lo power rows of one type the first one survives. -/
theorem rack_effect_first_wins (l : List Row) (t : Rat) :
    (collidingModuleRacks l).filter (fun r => decide (rackKey r = some t)) =
      (l.find? fun r => decide (rackKey r = some t)).toList := by
  unfold collidingModuleRacks
  rw [firstWins_filter_key (by intro r r' h; cases h) t]; simp

/-- After the pre-conversion validators every type has at most one default effect row ... -/
theorem default_effect_unique (l : List Row) (t : Rat) :
    ((preconv l).filter fun r => decide (defaultKey r = some t)).length ≤ 1 := by
  unfold preconv collidingModuleRacks
  refine Nat.le_trans ((firstWins_drop_sublist _ _).filter _).length_le ?_
  rw [default_effect_first_wins]
  exact Option.length_toList_le

/-- ... and at most one rack effect row. -/
theorem rack_effect_unique (l : List Row) (t : Rat) :
    ((preconv l).filter fun r => decide (rackKey r = some t)).length ≤ 1 := by
  unfold preconv
  rw [rack_effect_first_wins]
  exact Option.length_toList_le

/-- Built types, groups, attributes, effects and buffs (and the skill requirement / ability rows) are exactly
    the reachable rows of the prepared raw data: every supported item type and everything referenced
    transitively is there, nothing unreferenced is. (The pre-conversion validators only touch dgmtypeattribs and
    dgmtypeeffects rows.) -/
theorem built_iff_reachable (raw : List Row) (r : Row)
    (h1 : r.tbl ≠ .dgmtypeattribs) (h2 : r.tbl ≠ .dgmtypeeffects) :
    r ∈ final raw ↔ r ∈ prepare raw ∧ Reachable (prepare raw) r := by
  constructor
  · intro h
    rcases mem_preconv h with h | ⟨r0, _, ht, rfl⟩
    · exact ⟨(clean_sublist _).subset h, (clean_minimal _ _).1 h⟩
    · exact absurd ht h2
  · exact fun h => preconv_keeps ((clean_minimal _ _).2 h.2) h1 h2

/-- Every type attribute / type effect row the converter sees is a reachable row (possibly with its surplus
    default flag cleared). -/
theorem final_from_reachable (raw : List Row) : ∀ s ∈ final raw,
    ∃ s0 ∈ prepare raw, Reachable (prepare raw) s0 ∧ (s = s0 ∨ s = demote s0) := by
  intro s hs
  rcases mem_preconv hs with h | ⟨r0, h, _, rfl⟩
  · exact ⟨s, (clean_sublist _).subset h, (clean_minimal _ _).1 h, Or.inl rfl⟩
  · exact ⟨r0, (clean_sublist _).subset h, (clean_minimal _ _).1 h, Or.inr rfl⟩

/-- Whatever id a row of the converter's input puts into an id slot (`specConvRefs`) or carries as an autocharge /
    warfare-buff attribute value (`specValueRefs`): every row of the prepared raw data with that id is itself in the
    converter's input.  That built objects carry exactly these ids is correspondence. -/
theorem no_dangling_after_convert (raw : List Row) :
    ∀ s ∈ final raw, ∀ tv ∈ refTargets (specConvRefs ++ specValueRefs) s, ∀ r ∈ prepare raw,
      hits r tv = true → r ∈ final raw :=
  fun s hs tv htv => final_closed raw s hs tv
    (refTargets_mono (List.forall_mem_append.2 ⟨spec_refs_cover_converter, by decide⟩) s tv htv)

private def ex : List Row :=
  [{ tbl := .evetypes, pos := some 0, fields := [("typeID", .num 1 true), ("groupID", .num 5 true)] },
   { tbl := .evetypes, pos := some 1, fields := [("typeID", .num 2 true), ("groupID", .num 6 true)] },
   { tbl := .evetypes, pos := some 2, fields := [("typeID", .num 3 true), ("groupID", .num 6 true)] },
   { tbl := .evegroups, pos := some 0, fields := [("groupID", .num 5 true), ("categoryID", .num 6 true)] },
   { tbl := .evegroups, pos := some 1, fields := [("groupID", .num 6 true), ("categoryID", .num 9 true)] },
   { tbl := .dgmattribs, pos := some 0, fields := [("attributeID", .num 127 true)] },
   { tbl := .dgmattribs, pos := some 1, fields := [("attributeID", .num 50 true)] },
   { tbl := .dgmtypeattribs, pos := some 0,
     fields := [("typeID", .num 1 true), ("attributeID", .num 127 true), ("value", .num 2 false)] },
   { tbl := .dgmeffects, pos := some 0, fields := [("effectID", .num 12 true)] },
   { tbl := .dgmeffects, pos := some 1, fields := [("effectID", .num 13 true)] },
   { tbl := .dgmtypeeffects, pos := some 0,
     fields := [("typeID", .num 1 true), ("effectID", .num 12 true), ("isDefault", .bool true)] },
   { tbl := .dgmtypeeffects, pos := some 1,
     fields := [("typeID", .num 1 true), ("effectID", .num 13 true), ("isDefault", .bool true)] }]

/-- The restore loop is run once, here; the examples below go on from what it keeps. -/
theorem clean_ex : clean (prepare ex) =
    ex.filter fun r => (r.tbl, r.pos) ∉ [(.evetypes, some 2), (.dgmattribs, some 1)] := by decide +kernel

/-- The ship (type 1) keeps its group, its ammo attribute, the autocharge type 2 named by the attribute value and
    that type's weak group; the unreferenced type 3 and attribute 50 are dropped; of two default / rack effects
    the first survives. -/
example : (final ex).map (fun r => (r.tbl, r.pos)) =
    [(.evetypes, some 0), (.evetypes, some 1), (.evegroups, some 0), (.evegroups, some 1), (.dgmattribs, some 0),
     (.dgmtypeattribs, some 0), (.dgmeffects, some 0), (.dgmeffects, some 1), (.dgmtypeeffects, some 0)] := by
  rw [final, clean_ex]; decide +kernel

example : ((clean (prepare ex)).filter fun r => r.tbl = .dgmtypeeffects).length = 2 := by
  rw [clean_ex]; decide +kernel

/-- The ammo row of the ship carries two ids: attribute 127 and (by value, `int(2.0)`) type 2. -/
example : (final ex).flatMap (refTargets (specConvRefs ++ specValueRefs)) =
    [(.evegroups, .num 5 true), (.evegroups, .num 6 true), (.dgmattribs, .num 127 true), (.evetypes, .num 2 true),
     (.dgmeffects, .num 12 true)] := by
  rw [final, clean_ex]; decide +kernel

/-- Duplicate and non-Integral keys: the first row wins, the string-keyed row goes. -/
example : (preclean
    [{ tbl := .dgmattribs, pos := some 0, fields := [("attributeID", .num 7 true), ("maxAttributeID", .num 1 true)] },
     { tbl := .dgmattribs, pos := some 1, fields := [("attributeID", .num 7 true)] },
     { tbl := .dgmattribs, pos := some 2, fields := [("attributeID", .str "8")] }]).map (·.pos) = [some 0] := by
  decide +kernel

end Eos.C18
