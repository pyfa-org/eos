import EosProofs.Lemmas.Machine
/-! # C09 — reading values is pure

Reads are steps of the lazy-cache machine of C01: they fill the cache with freshly calculated values and
never touch the configuration.  For every graph family and every legal history: a read returns the
from-scratch value whatever was read before (so repeating or re-ordering reads changes nothing), and a legal
history and the same history with all reads deleted end in states that cannot be told apart. -/
namespace Eos.C09
open Eos.DepCache Eos.Machine

variable {C N V : Type}

/-- A read leaves the configuration alone. -/
theorem read_preserves_config (W : C → Graph N V) (s : State C N V) (S : N → Bool) :
    (step W s (.read S)).cfg = s.cfg := rfl

/-- A (dependency-closed) read keeps the cache coherent. -/
theorem read_preserves_inv (W : C → Graph N V) (s : State C N V) (S : N → Bool)
    (hg : Good W s) (hl : Legal W s (.read S)) : Good W (step W s (.read S)) :=
  good_step W s _ hg hl

/-- Between two mutations any read returns the same value no matter which reads preceded it. -/
theorem read_value_independent_of_earlier_reads (W : C → Graph N V) (s : State C N V)
    (reads : List (Step C N V)) (hr : ∀ st ∈ reads, st.isRead = true)
    (hg : Good W s) (hl : LegalRun W s reads) (n : N) :
    observe W (run W s reads) n = observe W s n := by
  refine observe_run_congr W hg hg hl (steps' := []) trivial ?_ n
  have := cfg_run_filter W reads s
  rwa [List.filter_eq_nil_iff.2 (by simpa using hr)] at this

/-- Two reads in either order give the same values everywhere. -/
theorem read_commute (W : C → Graph N V) (s : State C N V) (S T : N → Bool) (hg : Good W s)
    (h1 : LegalRun W s [.read S, .read T]) (h2 : LegalRun W s [.read T, .read S]) (n : N) :
    observe W (run W s [.read S, .read T]) n = observe W (run W s [.read T, .read S]) n :=
  observe_run_congr W hg hg h1 h2 rfl n

/-- Reading more or fewer quantities before a mutation does not change any value after it: the history
with all reads deleted ends in the same configuration and every observation agrees.  (The hypothesis `hl'` could
be dropped: from the empty cache a history without reads caches nothing, and `Legal` of a change only constrains
cached entries.) -/
theorem reads_do_not_affect_future (W : C → Graph N V) (steps : List (Step C N V)) (c : C)
    (hl : LegalRun W { cfg := c, cache := fun _ => none } steps)
    (hl' : LegalRun W { cfg := c, cache := fun _ => none } (steps.filter (fun st => !st.isRead))) (n : N) :
    observe W (run W { cfg := c, cache := fun _ => none } steps) n =
      observe W (run W { cfg := c, cache := fun _ => none } (steps.filter (fun st => !st.isRead))) n :=
  observe_run_congr W (good_init W c) (good_init W c) hl hl' (cfg_run_filter W steps _) n

end Eos.C09
