import EosProofs.Lemmas.Stats
import EosGen.StatHandlerMaps
import Mathlib.Algebra.Order.Field.Basic
/-! # C04 — fit statistics equal aggregation over current items and obey algebraic laws

Property theorems only (helpers: `EosProofs/Lemmas/Stats.lean`, `EosProofs/Lemmas/Toggle.lean`).
`EosGen.StatFormulas` (AST translation of the EHP / DmgStats / cycle formulas plus the decision table of
`get_cycle_parameters` obtained by running it) and `EosGen.StatHandlerMaps` (the `_handler_map` of every stat
register) are regenerated from /repo on every run; the laws are stated about those generated definitions
(namespace `G`), and the `gen_*` theorems tie them to the hand-written model (`EosModel/Stats.lean`,
`EosModel/Cycle.lean`) which the correspondence run executes against the real code on random histories.

D15: 100 % resist against every dealt damage type makes `received = 0` and the real code raises
ZeroDivisionError; likewise a zero cycle time in DPS.  Both lie outside the property's quantifier ("non-zero
divisors / valid ranges"): every theorem states its guard explicitly (`0 < G.tankReceived ...`, `0 < duration`),
and `tankEff_divZero_iff` / `received_eq_zero_iff` / `worst_divZero_iff` characterise the error branch. -/
namespace Eos.C04
open Eos.Stats Eos.Cycle Eos.Toggle

/-- Generated = spec: resist is `1 - resonance`, a missing resonance attribute counts as 1 (resist 0). -/
theorem gen_resist_eq (res : ℚ) : G.resist res = 1 - res ∧ G.resistDefault = 1 := ⟨rfl, rfl⟩

/-- Generated = spec: the translated `_get_tanking_efficiency` is `dealt / received` with `received = dealt -
    absorbed`. -/
theorem gen_tank_parts (p r : D4) :
    G.tankDealt p.em p.th p.ki p.ex r.em r.th r.ki r.ex = dealt p ∧
    G.tankReceived p.em p.th p.ki p.ex r.em r.th r.ki r.ex = received p r ∧
    G.tankEff p.em p.th p.ki p.ex r.em r.th r.ki r.ex = dealt p / received p r := ⟨rfl, rfl, rfl⟩

/-- With a non-zero divisor the model value of the tanking efficiency is the generated formula. -/
theorem gen_tankEff_eq (p r : D4) (h : received p r ≠ 0) :
    Stats.tankEff p r = .ok (G.tankEff p.em p.th p.ki p.ex r.em r.th r.ki r.ex) := by
  simp [Stats.tankEff, h, (gen_tank_parts p r).2.2]

/-- Error branch: the model reports ZeroDivisionError exactly when the generated divisor `received` is 0 (the
    harness checks the real code raises there). -/
theorem tankEff_divZero_iff (p r : D4) :
    Stats.tankEff p r = .error .zeroDiv ↔ G.tankReceived p.em p.th p.ki p.ex r.em r.th r.ki r.ex = 0 := by
  rw [(gen_tank_parts p r).2.1]
  unfold Stats.tankEff
  split <;> simp_all

/-- The error branch characterised: within valid ranges nothing is received iff every dealt damage type meets 100 %
    resist. -/
theorem received_eq_zero_iff (p r : D4)
    (hp : 0 ≤ p.em ∧ 0 ≤ p.th ∧ 0 ≤ p.ki ∧ 0 ≤ p.ex)
    (hr : r.em ≤ 1 ∧ r.th ≤ 1 ∧ r.ki ≤ 1 ∧ r.ex ≤ 1) :
    received p r = 0 ↔ (p.em = 0 ∨ r.em = 1) ∧ (p.th = 0 ∨ r.th = 1) ∧ (p.ki = 0 ∨ r.ki = 1) ∧ (p.ex = 0 ∨ r.ex = 1) := by
  obtain ⟨h1, h2, h3, h4⟩ := hp
  obtain ⟨g1, g2, g3, g4⟩ := hr
  have n1 : 0 ≤ p.em * (1 - r.em) := mul_nonneg h1 (sub_nonneg.2 g1)
  have n2 : 0 ≤ p.th * (1 - r.th) := mul_nonneg h2 (sub_nonneg.2 g2)
  have n3 : 0 ≤ p.ki * (1 - r.ki) := mul_nonneg h3 (sub_nonneg.2 g3)
  have n4 : 0 ≤ p.ex * (1 - r.ex) := mul_nonneg h4 (sub_nonneg.2 g4)
  -- a sum of four non-negative terms vanishes iff each does
  rw [received_eq, add_eq_zero_iff_of_nonneg (add_nonneg (add_nonneg n1 n2) n3) n4,
    add_eq_zero_iff_of_nonneg (add_nonneg n1 n2) n3, add_eq_zero_iff_of_nonneg n1 n2, and_assoc, and_assoc]
  simp only [mul_one_sub_eq_zero]

/-- **EHP is never below raw HP** (per layer; about the generated `__get_layer_ehp`), for hp >= 0, profile entries
    >= 0, resists in [0,1] and a positive divisor (the guard against the error branch). -/
theorem ehp_ge_hp (hp : ℚ) (p r : D4) (hhp : 0 ≤ hp) (v : Valid p r)
    (hrecv : 0 < G.tankReceived p.em p.th p.ki p.ex r.em r.th r.ki r.ex) :
    hp ≤ G.layerEhp hp p.em p.th p.ki p.ex r.em r.th r.ki r.ex := by
  unfold EosGen.StatFormulas.layerEhp
  split
  · exact le_refl _
  · obtain ⟨_, h1, h2⟩ := mult_chain p r v hrecv
    exact le_mul_of_one_le_right hhp (h1.trans h2)

/-- **EHP is never below worst-case EHP** (per layer, same guards); the worst-case divisor `1 - min resist` is then
    positive as well. -/
theorem ehp_ge_worstCase (hp : ℚ) (p r : D4) (hhp : 0 ≤ hp) (v : Valid p r)
    (hrecv : 0 < G.tankReceived p.em p.th p.ki p.ex r.em r.th r.ki r.ex) :
    G.layerWorstEhp hp r.em r.th r.ki r.ex ≤ G.layerEhp hp p.em p.th p.ki p.ex r.em r.th r.ki r.ex ∧
    (hp ≠ 0 → 0 < G.worstDivisor hp r.em r.th r.ki r.ex) := by
  unfold EosGen.StatFormulas.layerEhp EosGen.StatFormulas.layerWorstEhp EosGen.StatFormulas.worstDivisor
  obtain ⟨hm, _, h2⟩ := mult_chain p r v hrecv
  by_cases h0 : hp = 0
  · simp [h0]
  · simp only [h0, if_false]
    refine ⟨?_, fun _ => hm⟩
    show hp / (1 - minResist r) ≤ hp * (dealt p / received p r)
    rw [div_eq_mul_one_div]
    exact mul_le_mul_of_nonneg_left h2 hhp

/-- **EHP is unchanged by scaling the damage profile by any k > 0**: the model outcome (value *or*
    ZeroDivisionError) and the generated formula agree before and after scaling. -/
theorem ehp_scale_invariant (hp k : ℚ) (p r : D4) (hk : 0 < k) :
    Stats.layerEhp hp (p.scale k) r = Stats.layerEhp hp p r ∧
    G.layerEhp hp (p.em * k) (p.th * k) (p.ki * k) (p.ex * k) r.em r.th r.ki r.ex
      = G.layerEhp hp p.em p.th p.ki p.ex r.em r.th r.ki r.ex := by
  have hk' : k ≠ 0 := ne_of_gt hk
  have hd : dealt (p.scale k) = dealt p * k := by simp only [dealt, D4.scale, add_mul]
  have hr : received (p.scale k) r = received p r * k := by simp only [received_eq, D4.scale]; ring
  have hq : dealt (p.scale k) / received (p.scale k) r = dealt p / received p r := by
    rw [hd, hr]; exact mul_div_mul_right _ _ hk'
  constructor
  · unfold Stats.layerEhp Stats.tankEff
    rw [hq, hr]
    simp only [mul_eq_zero_iff_right hk']
  · exact congrArg (fun q => if hp = 0 then hp else hp * q) hq

/-- Generated = spec for a whole layer: outside the error branch the model's `__get_layer_ehp` is the generated
    formula. -/
theorem gen_layerEhp_eq (hp : ℚ) (p r : D4) (h : hp = 0 ∨ received p r ≠ 0) :
    Stats.layerEhp hp p r = .ok (G.layerEhp hp p.em p.th p.ki p.ex r.em r.th r.ki r.ex) := by
  unfold Stats.layerEhp EosGen.StatFormulas.layerEhp
  by_cases h0 : hp = 0
  · simp [h0]
  · have hr : received p r ≠ 0 := h.resolve_left h0
    simp only [h0, if_false, gen_tankEff_eq p r hr]
    rfl

/-- Generated = spec for `__get_layer_worst_case_ehp`, and its error branch: ZeroDivisionError exactly when the
    layer has HP and the generated divisor `1 - min resist` is 0. -/
theorem worst_divZero_iff (hp : ℚ) (r : D4) :
    (Stats.layerWorst hp r = .error .zeroDiv ↔ hp ≠ 0 ∧ G.worstDivisor hp r.em r.th r.ki r.ex = 0) ∧
    (¬ (hp ≠ 0 ∧ G.worstDivisor hp r.em r.th r.ki r.ex = 0) →
      Stats.layerWorst hp r = .ok (G.layerWorstEhp hp r.em r.th r.ki r.ex)) := by
  unfold Stats.layerWorst minResist EosGen.StatFormulas.worstDivisor EosGen.StatFormulas.layerWorstEhp
  generalize min (min (min r.em r.th) r.ki) r.ex = m
  by_cases h0 : hp = 0 <;> by_cases hm : 1 - m = 0 <;> simp [h0, hm]

/-- Generated = spec: `DmgStats._combine`'s loop (generated start value and body) computes the per-type sum. -/
theorem gen_combine_eq (l : List D4) : genSum l = tup (D4.sum l) :=
  List.foldl_hom tup (g₁ := D4.add) (init := D4.zero) fun _ _ => rfl

/-- Generated = spec: `DmgStats(..., mult)` multiplies every damage type by `mult`. -/
theorem gen_scale_eq (v : D4) (k : ℚ) : G.statScale v.em v.th v.ki v.ex k = tup (v.scale k) := rfl

/-- **A target resist profile scales each damage type by (1 - resist)**. -/
theorem combine_resist_scales (a r : D4) :
    G.combineResist a.em a.th a.ki a.ex r.em r.th r.ki r.ex
      = (a.em * (1 - r.em), a.th * (1 - r.th), a.ki * (1 - r.ki), a.ex * (1 - r.ex)) ∧
    tup (a.resisted r) = G.combineResist a.em a.th a.ki a.ex r.em r.th r.ki r.ex := ⟨rfl, rfl⟩

/-- **Additivity** of the generated aggregation: for any list of items, any per-item damage `v` and any filter `q`,
    `sum (l.filter q) + sum (l.filter (not q)) = sum l` (componentwise). -/
theorem genSum_partition {α} (l : List α) (v : α → D4) (q : α → Bool) :
    genSum ((l.filter q).map v) + genSum ((l.filter (fun x => !q x)).map v) = genSum (l.map v) := by
  simp only [gen_combine_eq, ← sum_partition l v q, tup, D4.add]; rfl

/-- **Volley is additive over any partition of the items by any filter** (model of `fit.stats.get_volley`, every
    item volley defined). -/
theorem volley_additive (s : Snap) (tgt : Option D4) (v : Item → D4)
    (H : ∀ it ∈ ddItems s, itemVolley s it tgt = .ok (v it)) (f q : Item → Bool) (w w1 w2 : D4)
    (h : fitVolley s f tgt = .ok w) (h1 : fitVolley s (fun it => f it && q it) tgt = .ok w1)
    (h2 : fitVolley s (fun it => f it && !q it) tgt = .ok w2) : w1.add w2 = w :=
  agg_additive (ddItems s) _ v H f q w w1 w2 h h1 h2

/-- **DPS is additive over any partition of the items by any filter** (model of `fit.stats.get_dps`, any reload flag
    and target resists). -/
theorem dps_additive (s : Snap) (reload : Bool) (tgt : Option D4) (v : Item → D4)
    (H : ∀ it ∈ ddItems s, itemDps s it reload tgt = .ok (v it)) (f q : Item → Bool) (w w1 w2 : D4)
    (h : fitDps s f reload tgt = .ok w) (h1 : fitDps s (fun it => f it && q it) reload tgt = .ok w1)
    (h2 : fitDps s (fun it => f it && !q it) reload tgt = .ok w2) : w1.add w2 = w :=
  agg_additive (ddItems s) _ v H f q w w1 w2 h h1 h2

/-- Generated = model: the real `get_cycle_parameters`, run on the generator's grid of 768 sample points (cycles,
    duration, inactive, reload time, flag) — a sample of ℚ, not a complete domain —, agrees with `Cycle.params` on
    every row. -/
theorem gen_cycle_table : ∀ row ∈ G.cycleTable,
    params row.1 row.2.1 row.2.2.1 row.2.2.2.1 row.2.2.2.2.1 = row.2.2.2.2.2 := by decide +kernel

/-- Generated = model: `CycleInfo.average_time`. -/
theorem gen_avg_info (c : Info) : avgTime (.info c) = .ok (G.infoAvg c.active c.inactive) := rfl

/-- Generated = model: `CycleSequence.average_time` of the two-member sequences `get_cycle_parameters` builds. -/
theorem gen_avg_seq (a1 i1 q1 a2 i2 q2 : ℚ) (Q : ERat) (h : q1 + q2 ≠ 0) :
    avgTime (.seq [⟨a1, i1, .fin q1⟩, ⟨a2, i2, .fin q2⟩] Q)
      = .ok (G.seqAvg (G.infoTime a1 i1 q1 + G.infoTime a2 i2 q2) (G.infoQty q1 + G.infoQty q2)) := by
  simp [avgTime, seqTime, seqQty, h, EosGen.StatFormulas.seqAvg, EosGen.StatFormulas.infoTime, EosGen.StatFormulas.infoQty]

/-- Generated = spec: DPS factor `1 / average_time`, repair rate `amount / average_time`, milliseconds to seconds. -/
theorem gen_rates (amount avg t : ℚ) :
    G.dpsMult avg = 1 / avg ∧ G.rps amount avg = amount / avg ∧
    G.durationS t = t / 1000 ∧ G.inactiveS t = t / 1000 ∧ G.reloadS t = t / 1000 := ⟨rfl, rfl, rfl, rfl, rfl⟩

/-- **Totality of the cycle case analysis**: `get_cycle_parameters` yields `None` exactly for effects that cannot
    cycle, and every other outcome has a well-defined average time (no sequence with zero total quantity, no
    infinite member). -/
theorem cycle_cases_total (c : Option ERat) (d i rt : Option ℚ) (reload : Bool) :
    (params c d i rt reload = none ↔ Dead c) ∧
    (∀ cy, params c d i rt reload = some cy → ∃ t, avgTime cy = .ok t) := by
  rcases c with _ | (c | _)
  · simp [params, Dead]
  · by_cases hc : c ≤ 0
    · simp [params, Dead, hc]
    · obtain ⟨cy, h1, h2⟩ := avgTime_params (lt_of_not_ge hc) d i rt reload
      simp only [h1, Dead, hc, reduceCtorEq, Option.some.injEq, forall_eq', h2]
      exact ⟨trivial, _, rfl⟩
  · simp [params, Dead]
    exact ⟨_, rfl⟩

/-- Taking reload into account never shortens the average cycle time (all inputs, incl. None / 0 / inf). -/
theorem reload_avg_ge (c : Option ERat) (d i rt : Option ℚ) (cF : Cyc) (tF : ℚ)
    (hF : params c d i rt false = some cF) (hFt : avgTime cF = .ok tF) :
    ∃ cT tT, params c d i rt true = some cT ∧ avgTime cT = .ok tT ∧ tF ≤ tT := by
  rcases c with _ | (c | _)
  · simp [params] at hF
  · by_cases hc : c ≤ 0
    · simp [params, hc] at hF
    · have hpos : 0 < c := lt_of_not_ge hc
      obtain ⟨_, h1, h2⟩ := avgTime_params hpos d i rt false
      obtain ⟨cT, h3, h4⟩ := avgTime_params hpos d i rt true
      cases h1.symm.trans hF
      cases h2.symm.trans hFt
      exact ⟨cT, _, h3, h4, div_le_div_of_nonneg_right
        (add_le_add_right (add_le_add_right (tailTime_mono _ rt) _) _) hpos.le⟩
  · exact ⟨cF, tF, by simpa [params] using hF, hFt, le_refl _⟩

/-- With positive duration, non-negative inactivity / reload time and (when finite) at least one cycle, the average
    cycle time is positive (guard of the DPS division). -/
theorem avg_pos (c : Option ERat) (d i rt : Option ℚ) (reload : Bool) (cy : Cyc) (t : ℚ)
    (ha : 0 < orZero d) (hi : 0 ≤ orZero i) (hr : ∀ r, rt = some r → 0 ≤ r) (hc : ∀ q, c = some (.fin q) → 1 ≤ q)
    (h : params c d i rt reload = some cy) (ht : avgTime cy = .ok t) : 0 < t := by
  rcases c with _ | (c | _)
  · simp [params] at h
  · have hpos : 0 < c := zero_lt_one.trans_le (hc c rfl)
    obtain ⟨_, h2, h3⟩ := avgTime_params hpos d i rt reload
    cases h2.symm.trans h
    cases h3.symm.trans ht
    exact div_pos (add_pos_of_nonneg_of_pos (mul_nonneg (add_nonneg ha.le hi) (sub_nonneg.2 (hc c rfl)))
      (add_pos_of_pos_of_nonneg ha (tailTime_nonneg hi hr reload))) hpos
  · cases h
    cases ht
    exact add_pos_of_pos_of_nonneg ha hi

/-- **Taking reload into account never increases DPS**: avgTime(reload) >= avgTime(no reload) > 0, hence every
    non-negative damage component times the generated factor `1 / average_time` does not grow. -/
theorem reload_dps_le (c : Option ERat) (d i rt : Option ℚ) (cF : Cyc) (tF x : ℚ)
    (ha : 0 < orZero d) (hi : 0 ≤ orZero i) (hr : ∀ r, rt = some r → 0 ≤ r) (hc : ∀ q, c = some (.fin q) → 1 ≤ q)
    (hx : 0 ≤ x) (hF : params c d i rt false = some cF) (hFt : avgTime cF = .ok tF) :
    ∃ cT tT, params c d i rt true = some cT ∧ avgTime cT = .ok tT ∧ 0 < tF ∧ tF ≤ tT ∧
      x * G.dpsMult tT ≤ x * G.dpsMult tF := by
  obtain ⟨cT, tT, h1, h2, h3⟩ := reload_avg_ge c d i rt cF tF hF hFt
  have hp := avg_pos c d i rt false cF tF ha hi hr hc hF hFt
  refine ⟨cT, tT, h1, h2, hp, h3, ?_⟩
  apply mul_le_mul_of_nonneg_left _ hx
  exact one_div_le_one_div_of_le hp h3

/-- Generated = spec: every stat register's `_handler_map` is exactly the message pair its predicate needs (with
    discard / remove semantics), and the registers / slot properties are configured with the expected effect and
    attribute ids. -/
theorem gen_handlerMaps_eq_spec :
    EosGen.StatHandlerMaps.table = specHandlerTable ∧ EosGen.StatHandlerMaps.config = specConfig ∧
    EosGen.StatHandlerMaps.slotProps = specSlotProps := ⟨rfl, rfl, rfl⟩

/-- **Registers do not drift**: after any message history in which switch-on messages alternate per item, a stat
    register holds exactly the items whose watched point is on and which qualified when it went on, each once. -/
theorem stat_register_tracks (r : RegSpec) (ms : List Msg) (ha : Alternates r.point (fun _ => none) ms) :
    Inv (truth r (micro r.point ms)) (r.run ms) :=
  register_inv r ms (fun _ => none) [] (inv_nil : Inv (fun _ => (none : Option Unit)) []) ha

/-- The executable alternation check the correspondence run applies to every recorded real message stream
    implies the hypothesis of `stat_register_tracks`. -/
theorem alternatesB_sound (p : Point) (ms : List Msg) (cur : Nat → Option Facts)
    (h : alternatesB p cur ms = true) : Alternates p cur ms := by
  induction ms generalizing cur with
  | nil => trivial
  | cons m t ih =>
    simp only [alternatesB, Bool.and_eq_true, Bool.or_eq_true, Bool.not_eq_true'] at h
    refine ⟨fun hp ho => ?_, ih _ h.2⟩
    rcases h.1 with h1 | h1
    · rw [hp] at h1; cases h1
    · simpa [ho] using h1

/-- A `set.remove`-style handler (repairer registers) never raises: when a switch-off arrives for an item that is on
    and qualified, the register holds it. -/
theorem strict_remove_present (r : RegSpec) (ms : List Msg) (m : Msg)
    (ha : Alternates r.point (fun _ => none) ms) (f : Facts)
    (hon : micro r.point ms m.item = some f) (hg : r.guard f = true) :
    (m.item, ()) ∈ r.run ms := by
  have h := (stat_register_tracks r ms ha).1 m.item ()
  rw [h]; simp [truth, hon, hg]

/-- What a register-based `used` (sum of an attribute, or the member count) computes equals the stateless
    recomputation over the current items of the snapshot, whenever the register holds what its predicate says
    of the snapshot's items (`hc`: a hypothesis; no theorem derives it from a message history, that link is the
    correspondence run's). -/
theorem stats_eq_spec (s : Snap) (P : Item → Bool) (val : Nat → ℚ) (cur : Nat → Option Unit) (reg : Reg Unit)
    (hnd : (s.mine.map (·.id)).Nodup) (hi : Inv cur reg)
    (hc : ∀ i, cur i = some () ↔ ∃ it ∈ s.mine, it.id = i ∧ P it = true) :
    reg.length = (s.mine.filter P).length ∧
    regSum val reg = (((s.mine.filter P).map fun it => val it.id).foldl (· + ·) 0) := by
  -- the qualifying items, read as a register, hold the same truth
  have hd : Inv cur ((s.mine.filter P).map fun it => (it.id, ())) := by
    refine ⟨fun i _ => Iff.trans ?_ (hc i).symm, ?_⟩
    · simp only [List.mem_map, List.mem_filter, Prod.mk.injEq, and_true, and_assoc, and_comm (a := P _ = true)]
    · rw [List.map_map]; exact (List.Sublist.map _ List.filter_sublist).nodup hnd
  have hperm := perm_of_inv hi hd
  refine ⟨by simpa using hperm.length_eq, ?_⟩
  unfold regSum
  rw [(hperm.map fun x => val x.1).foldl_eq' (fun x _ y _ z => by ring) 0, List.map_map]
  rfl

/-- The hypotheses of the EHP laws are satisfiable: omni profile against 50 % resists doubles the HP ... -/
example : G.layerEhp 100 25 25 25 25 (1/2) (1/2) (1/2) (1/2) = 200 := by decide +kernel
example : Valid ⟨25, 25, 25, 25⟩ ⟨1/2, 1/2, 1/2, 1/2⟩ ∧ 0 < G.tankReceived 25 25 25 25 (1/2) (1/2) (1/2) (1/2) := by
  refine ⟨⟨?_, ?_, ?_, ?_, ?_, ?_, ?_, ?_⟩, ?_⟩ <;> decide +kernel
/-- ... a mixed layer is strictly above its worst case (1000/7 ≈ 142.9 > 1000/9 ≈ 111.1) ... -/
example : G.layerWorstEhp 100 (1/10) (1/2) (1/2) (1/2) < G.layerEhp 100 1 1 0 0 (1/10) (1/2) (1/2) (1/2) := by decide +kernel
/-- ... and the error branch is real: pure EM damage against 100 % EM resist is the ZeroDivisionError branch. -/
example : G.tankReceived 1 0 0 0 1 0 0 0 = 0 := by decide +kernel
example : (match Stats.tankEff ⟨1, 0, 0, 0⟩ ⟨1, 0, 0, 0⟩ with | .error .zeroDiv => true | _ => false) = true := by decide +kernel
/-- Reload strictly lowers DPS for 3 cycles of 4 s followed by a 5 s reload: 17/3 s per cycle instead of 4 s. -/
example : (params (some (.fin 3)) (some 4) (some 0) (some 5) true).map avgTime = some (.ok (17/3)) ∧
    (params (some (.fin 3)) (some 4) (some 0) (some 5) false).map avgTime = some (.ok 4) := by decide +kernel
/-- A register history: item 7 goes online (qualifies), item 8 goes online without a cpu attribute, item 7 stops. -/
example :
    let f : Facts := { cls := .modHigh, typeAttrs := ["cpu"] }
    let g : Facts := { cls := .modHigh, typeAttrs := [] }
    let ms : List Msg := [⟨true, 7, f, [.effect "online"]⟩, ⟨true, 8, g, [.effect "online"]⟩]
    regCpu.run ms = [(7, ())] ∧ regCpu.run (ms ++ [⟨false, 7, f, [.effect "online", .effect "x"]⟩]) = [] := by decide +kernel
example : Alternates (.effect "online") (fun _ => none)
    [⟨true, 7, { cls := .modHigh, typeAttrs := ["cpu"] }, [.effect "online"]⟩,
     ⟨false, 7, { cls := .modHigh, typeAttrs := ["cpu"] }, [.effect "online"]⟩,
     ⟨true, 7, { cls := .modHigh, typeAttrs := ["cpu"] }, [.effect "online"]⟩] := by
  simp [Alternates, microStep, upd]

end Eos.C04
