import EosProofs.Lemmas.Machine
import EosProofs.Lemmas.Cascade
/-! # C01 — incrementally maintained values equal from-scratch values

Layer 1 (this file): the abstract lazy-cache machine.  For *every* family of dependency graphs, every history
of reads and mutations whose removal sets are `Legal` leaves the cache coherent, so everything readable equals
the from-scratch value of the current configuration; how the configuration was reached and what was read on the
way never matters.  The machine's read does not calculate: it stores `spec`, and a miss answers `spec`
(`Machine.observe`), so what is claimed is that an entry which survives a legal mutation is still right; that the
executable read returns `spec` is `C01World.driver_read_value`.  `cascade_upward_closed`: the depth-first `_force_recalc` + `AttrsValueChanged` cascade
leaves no cached reverse dependency of what it removed; this is `Legal`'s second clause once `rdeps` covers the
converse of `deps` (`C01World.rdeps_complete`).

Layer 2 (`EosProofs/Props/C01World.lean`): the eos instantiation — the dependency graph of the message-level
model `EosModel/WorldMicro.lean` and the handlers' removal sets. -/
namespace Eos.C01
open Eos.DepCache Eos.Machine

variable {C N V : Type}

/-- A fresh solar system (nothing cached) satisfies the invariant. -/
theorem inv_init (W : C → Graph N V) (c : C) : Good W { cfg := c, cache := fun _ => none } :=
  good_init W c

/-- One public call (read or mutation with a legal removal set) preserves the invariant. -/
theorem inv_step (W : C → Graph N V) (s : State C N V) (st : Step C N V)
    (hg : Good W s) (hl : Legal W s st) : Good W (step W s st) := good_step W s st hg hl

/-- Every state reached from a fresh solar system by a legal history, of any length, satisfies the invariant. -/
theorem inv_run (W : C → Graph N V) (steps : List (Step C N V)) (c : C)
    (hl : LegalRun W { cfg := c, cache := fun _ => none } steps) :
    Good W (run W { cfg := c, cache := fun _ => none } steps) :=
  good_run W steps _ (good_init W c) hl

/-- Every value readable after a legal history equals the from-scratch value of the final configuration. -/
theorem read_eq_spec (W : C → Graph N V) (steps : List (Step C N V)) (c : C)
    (hl : LegalRun W { cfg := c, cache := fun _ => none } steps) (n : N) :
    observe W (run W { cfg := c, cache := fun _ => none } steps) n =
      spec (W (run W { cfg := c, cache := fun _ => none } steps).cfg) n :=
  observe_eq_spec W _ (inv_run W steps c hl) n

/-- Two legal histories that end in the same configuration are indistinguishable: in particular a long mixed
history and the one-step "build it from scratch" history. -/
theorem incremental_eq_scratch (W : C → Graph N V) (steps steps' : List (Step C N V)) (c c' : C)
    (hl : LegalRun W { cfg := c, cache := fun _ => none } steps)
    (hl' : LegalRun W { cfg := c', cache := fun _ => none } steps')
    (hc : (run W { cfg := c, cache := fun _ => none } steps).cfg =
          (run W { cfg := c', cache := fun _ => none } steps').cfg) (n : N) :
    observe W (run W { cfg := c, cache := fun _ => none } steps) n =
      observe W (run W { cfg := c', cache := fun _ => none } steps') n :=
  observe_run_congr W (good_init W c) (good_init W c') hl hl' hc n

/-- The depth-first invalidation cascade only removes entries and leaves no cached reverse dependency of
anything it removed: its removal set is closed under `rdeps` — the second clause of `Legal` (which speaks of
`deps` of the new graph) whenever `rdeps` covers the converse of `deps`.  The instance `P := True` of
`Cascade.casc_covers`; the message-level model needs the relativised form (`C01World.cascade_closed`). -/
theorem cascade_upward_closed [DecidableEq N] (rdeps : N → List N) (rank : N → Nat) (B : Nat)
    (hr : ∀ m x, x ∈ rdeps m → rank m < rank x) (hB : ∀ x, rank x < B)
    (K : Cascade.Cache N V) (n : N) :
    Cascade.Mono K (Cascade.casc rdeps (B - rank n) K n) ∧
    (∀ x, x ∈ rdeps n → Cascade.casc rdeps (B - rank n) K n x = none) ∧
    Cascade.Closed rdeps K (Cascade.casc rdeps (B - rank n) K n) :=
  ⟨(Cascade.casc_sub rdeps _ K n).mono, Cascade.casc_covers rdeps rank B (fun _ => True) (fun m x _ _ => hr m x)
    (fun x _ => hB x) _ K n (fun _ _ => trivial) trivial (Nat.le_refl _)⟩

/-- `Legal` is inhabited: a two-node graph (`1` depends on `0`) and the read of everything from an empty cache.
Legal `change`s taken with a non-empty cache are at the message level: the three messages after the first read
of `C01World.buffHist` (`C01World.buff_runOK`). -/
example : ∃ (W : Bool → Graph Nat Nat) (st : Step Bool Nat Nat),
    Legal W { cfg := true, cache := fun _ => none } st := by
  refine ⟨fun _ => { deps := fun n => if n = 1 then [0] else [], eval := fun n f => if n = 1 then f 0 else some 7,
                     rank := fun n => n, acyclic := ?_, eval_local := ?_ }, .read (fun _ => true), ?_⟩
  · intro n m hm; by_cases h : n = 1 <;> simp [h] at hm; omega
  · intro n f g h; by_cases hn : n = 1
    · simp [hn]; exact h 0 (by simp [hn])
    · simp [hn]
  · intro n _ m _ _; exact Or.inl rfl

end Eos.C01
