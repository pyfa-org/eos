import EosModel.SourceMgr
import EosProofs.Lemmas.SourceMgr
/-! # C17 — the source manager rebuilds the cache exactly when it must

Over the state-machine model `Eos.SourceMgr` of `eos/source/manager.py`
(`ev` = the engine version string `eos.__version__`).  All statements hold for every world,
every data version / cache fingerprint and every history of add/get/remove/list. -/
namespace Eos.C17
open Eos.SourceMgr

variable {γ : Type} (ev : String)

/-- Adding under a fresh alias rebuilds (runs the builder and `update_cache`) if and only if the data
    version is unknown or the cached fingerprint differs from `"<data version>_<engine version>"` — the condition
    `data_version is None or cache_fp != current_fp` of `add` itself, read as a proposition. -/
theorem rebuild_iff (w : World γ) (a : String) (v : Option String) (o : γ) (c : Nat) (mk : Bool)
    (hfresh : a ∉ w.aliases) :
    (step ev w (.add a v o c mk)).2 = .added true ↔ (v = none ∨ (w.handlers c).fp ≠ some (formatFp ev v)) := by
  rw [step_add_fresh ev hfresh]
  cases v <;> simp [needRebuild]

/-- ... and otherwise it returns without touching the builder or the cache handler. -/
theorem no_rebuild_iff (w : World γ) (a : String) (v : Option String) (o : γ) (c : Nat) (mk : Bool)
    (hfresh : a ∉ w.aliases) :
    (step ev w (.add a v o c mk)).2 = .added false ↔ (v ≠ none ∧ (w.handlers c).fp = some (formatFp ev v)) := by
  rw [step_add_fresh ev hfresh]
  cases v <;> simp [needRebuild]

/-- An `add` that did not rebuild left every cache handler as it was. -/
theorem not_rebuilt_keeps_caches (w : World γ) (a : String) (v : Option String) (o : γ) (c : Nat) (mk : Bool)
    (h : (step ev w (.add a v o c mk)).2 = .added false) : (step ev w (.add a v o c mk)).1.handlers = w.handlers := by
  by_cases ha : a ∈ w.aliases
  · rw [step_add_taken ev ha]
  · rw [step_add_fresh ev ha] at h ⊢
    simp_all

/-- After a rebuild the source serves the objects built from the current data, under the current fingerprint. -/
theorem rebuilt_serves_current_data (w : World γ) (a : String) (v : Option String) (o : γ) (c : Nat) (mk : Bool)
    (h : (step ev w (.add a v o c mk)).2 = .added true) :
    (step ev w (.add a v o c mk)).1.handlers c = ⟨some (formatFp ev v), o⟩ ∧
    (step ev w (.add a v o c mk)).1.lookup a = some c := by
  by_cases ha : a ∈ w.aliases
  · rw [step_add_taken ev ha] at h; cases h
  · have hl := lookup_fresh w a ha
    rw [step_add_fresh ev ha] at h ⊢
    simp only [Res.added.injEq] at h
    simp only [World.lookup] at hl
    simp [h, setHandler, World.lookup, List.lookup_append, hl]

/-- Whether it rebuilt or not, after a successful `add` the cache handler's fingerprint is the current one. -/
theorem after_add_fp_current (w : World γ) (a : String) (v : Option String) (o : γ) (c : Nat) (mk : Bool)
    (hfresh : a ∉ w.aliases) :
    ((step ev w (.add a v o c mk)).1.handlers c).fp = some (formatFp ev v) := by
  rw [step_add_fresh ev hfresh]
  cases hr : needRebuild ev (w.handlers c).fp v
  · cases v <;> simp_all [needRebuild]
  · simp [setHandler]

/-- Adding again with unchanged (known) data does not rebuild: after a successful `add` with version
    `v` through cache handler `c`, and any history that does not hand `c` to another `add`, an `add` with
    the same version through `c` under any fresh alias leaves builder and cache alone. -/
theorem second_add_no_rebuild (w : World γ) (a a' : String) (v : String) (o o' : γ) (c : Nat) (mk mk' : Bool)
    (ops : List (Op γ)) (hfresh : a ∉ w.aliases) (hops : ∀ op ∈ ops, op.usesHandler c = false)
    (hfresh' : a' ∉ (run ev (step ev w (.add a (some v) o c mk)).1 ops).aliases) :
    (step ev (run ev (step ev w (.add a (some v) o c mk)).1 ops) (.add a' (some v) o' c mk')).2 = .added false := by
  rw [no_rebuild_iff ev _ a' (some v) o' c mk' hfresh', run_keeps_other_handlers ev _ ops c hops,
    after_add_fp_current ev w a (some v) o c mk hfresh]
  simp

/-- An unknown data version (`None`) rebuilds every time, whatever the cache holds. -/
theorem unknown_version_always_rebuilds (w : World γ) (a : String) (o : γ) (c : Nat) (mk : Bool)
    (hfresh : a ∉ w.aliases) : (step ev w (.add a none o c mk)).2 = .added true :=
  (rebuild_iff ev w a none o c mk hfresh).mpr (Or.inl rfl)

/-- Aliases are unique: adding under a taken alias raises `ExistingSourceError` and changes nothing
    (neither registry, default, nor any cache). -/
theorem alias_unique (w : World γ) (a : String) (v : Option String) (o : γ) (c : Nat) (mk : Bool)
    (h : a ∈ w.aliases) : step ev w (.add a v o c mk) = (w, .existingSourceError) :=
  step_add_taken ev h

/-- ... so no history ever registers an alias twice. -/
theorem aliases_nodup (w : World γ) (ops : List (Op γ)) (h : w.aliases.Nodup) : (run ev w ops).aliases.Nodup :=
  List.foldlRecOn (motive := fun w : World γ => w.aliases.Nodup) ops _ h fun w' hw op _ =>
    step_aliases_nodup ev w' op hw

/-- The default source changes only when an `add` that succeeds asks for it, and then to the added source. -/
theorem default_only_on_request (w : World γ) (op : Op γ) :
    (step ev w op).1.default = w.default ∨
      ∃ a v o c, op = .add a v o c true ∧ a ∉ w.aliases ∧ (step ev w op).1.default = some (a, c) := by
  cases op with
  | add a v o ch mk =>
    by_cases ha : a ∈ w.aliases
    · left; rw [step_add_taken ev ha]
    · rw [step_add_fresh ev ha]
      cases mk
      · left; rfl
      · right; exact ⟨a, v, o, ch, rfl, ha, rfl⟩
  | get a => left; rw [step_get_fst]
  | remove a => left; rw [step_remove_fst]
  | list => left; rfl

/-- get/remove/list (and add) are the operations of a plain finite map alias ↦ source: one step of the
    registry is one step of the map. -/
theorem registry_refines_map (w : World γ) (op : Op γ) : (step ev w op).1.lookup = specStep w.lookup op := by
  funext a'
  cases op with
  | add a v o ch mk =>
    by_cases hc : a ∈ w.aliases
    · have : w.lookup a ≠ none := (mem_aliases_iff w a).mp hc
      rw [step_add_taken ev hc]; simp [specStep, this]
    · have hn := lookup_fresh w a hc
      rw [step_add_fresh ev hc]
      simp only [World.lookup] at hn
      simp only [specStep, World.lookup, List.lookup_append, hn, true_and]
      by_cases ha : a' = a
      · subst ha; simp [hn]
      · simp [ha, beq_false_of_ne ha, List.lookup_cons]
  | get a => rw [step_get_fst]; rfl
  | remove a => rw [step_remove_fst, World.lookup, lookup_filter]; rfl
  | list => rfl

/-- ... hence after any history the registry is the map obtained by replaying the history on a map. -/
theorem history_refines_map (w : World γ) (ops : List (Op γ)) :
    (run ev w ops).lookup = ops.foldl specStep w.lookup := by
  induction ops generalizing w with
  | nil => rfl
  | cons op ops ih => simp only [run, List.foldl_cons] at ih ⊢; rw [ih, registry_refines_map]

/-- `get` returns the source registered under the alias, or raises `UnknownSourceError`; state unchanged. -/
theorem get_reflects (w : World γ) (a : String) :
    step ev w (.get a) = (w, match w.lookup a with | some c => .source a c | none => .unknownSourceError) := by
  simp only [step]; split <;> simp_all

/-- `remove` succeeds exactly on registered aliases. -/
theorem remove_reflects (w : World γ) (a : String) :
    (step ev w (.remove a)).2 = (if w.lookup a ≠ none then .removed else .unknownSourceError) := by
  have := mem_aliases_iff w a
  simp only [step]
  split <;> simp_all

/-- `list` shows exactly the registered aliases. -/
theorem list_reflects (w : World γ) (a : String) :
    (step ev w .list).2 = .aliases w.aliases ∧ (a ∈ w.aliases ↔ w.lookup a ≠ none) :=
  ⟨rfl, mem_aliases_iff w a⟩

def w0 : World Nat := ⟨fun _ => ⟨none, 0⟩, [], none⟩
/-- absent cache → rebuild; same data again → no rebuild; changed data → rebuild; taken alias → error. -/
example : (step "E" w0 (.add "a" (some "v1") 1 0 true)).2 = .added true := by decide +kernel
example : (step "E" (run "E" w0 [.add "a" (some "v1") 1 0 true, .remove "a"]) (.add "b" (some "v1") 2 0 false)).2
    = .added false := by decide +kernel
example : (step "E" (run "E" w0 [.add "a" (some "v1") 1 0 true]) (.add "b" (some "v2") 2 0 false)).2 = .added true := by
  decide +kernel
example : (step "E" (run "E" w0 [.add "a" (some "v1") 1 0 true]) (.add "a" (some "v1") 1 0 false)).2
    = .existingSourceError := by decide +kernel
example : (run "E" w0 [.add "a" (some "v1") 1 0 true, .add "b" none 2 1 false, .remove "a"]).default = some ("a", 0) := by
  decide +kernel

end Eos.C17
