import EosModel.World
/-! # C11 — removal is complete

Spec level: every observable of `EosModel.World` is a function of the current configuration (the three
theorems here only spell that out; that a gathered modification stems from a configured item is
`C02.gather_sound`), and an empty configuration has an empty value table.  Residue-freedom of the registers is
`C11World` (message level) and `C11Keyed`, `C11Park`, `C11Proj` (register level); on the real code it is checked
by the emptiness walk of `tools/props/c11.py`. -/
namespace Eos.C11
open Eos.World

/-- Once everything has been removed there is nothing left to evaluate. -/
theorem evalAll_no_items (u : Universe) (cfg : Config) (immune limited : List Int) (pen : Nat → Rat)
    (h : cfg.items = []) : evalAll u cfg immune limited pen = [] := by
  unfold evalAll
  rw [h]
  simp only [List.map_nil, List.append_nil]
  induction u.attrs with
  | nil => rfl
  | cons a as ih => simpa using ih

/-- With no items in the configuration no modification is gathered for anything. -/
theorem gather_no_items (u : Universe) (cfg : Config) (immune : List Int) (rd : Reader) (x : Item)
    (tx : ItemType) (attr : Int) (h : cfg.items = []) :
    gather u cfg immune rd x tx attr = .ok [] := by
  unfold gather; rw [h]; rfl

/-- Two configurations with the same items, fits and source give the same table.  (`Config` has no other
field, so the hypotheses say `cfg = cfg'`: the specification has nowhere to keep a removed item.) -/
theorem removed_item_no_influence (u : Universe) (cfg cfg' : Config) (immune limited : List Int)
    (pen : Nat → Rat) (hi : cfg.items = cfg'.items) (hf : cfg.fits = cfg'.fits)
    (hs : cfg.hasSource = cfg'.hasSource) :
    evalAll u cfg immune limited pen = evalAll u cfg' immune limited pen := by
  cases cfg; cases cfg'; simp_all

example : evalAll {} {} [] [] (fun _ => 1) = [] := rfl

end Eos.C11
