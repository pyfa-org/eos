import EosModel.WorldWF
import EosProofs.Lemmas.WorldWF
/-! # C10 — valid use never produces an internal error (attribute evaluation part)

In the world specification the only internal-error-like outcome is
`Val.notWF`: `readDep` returns it when an attribute with metadata is read before it has been computed,
which is what a cyclic attribute dependency amounts to (the real calculator would recurse without end).
The theorems say that `valueOf` never creates `notWF` (or `divZero`) out of thin air, and that for a
rank-well-formed universe (`rankWF`, decidable) no entry of `evalAll` and no public `read` is `notWF`,
for every configuration.  No `Nodup` hypothesis on attribute or item ids is needed. -/
namespace Eos.C10
open Eos.Calc Eos.World

section
variable (u : Universe) (cfg : Config) (immune limited : List Int) (pen : Nat → Rat)

/-- `valueOf` / `gather` / `resistOf` / `buffModifiers` never create `notWF`: it can only be an answer
of the reader, for `x` itself or a configured item, at an attribute id that is `readable` for `am`
(its max attribute, source attributes of modifiers targeting it, resistance attributes of the effects
involved, the warfare-buff attributes when a buff template targets it). -/
theorem valueOf_notWF_from_reader (rd : Reader) (x : Item) (am : AttrMeta)
    (h : valueOf u cfg immune limited pen rd x am = .notWF) :
    ∃ y a, rd y a = .notWF ∧ (y = x ∨ y ∈ cfg.items) ∧ a ∈ readable u am := by
  obtain ⟨_, ⟨⟩⟩ | ⟨⟨⟩⟩ | h' | ⟨⟨⟩, _⟩ := valueOf_cases h
  exact h'

/-- `divZero` is either propagated from the reader (same places) or `calculate` failed on the gathered
modifications, i.e. (`Eos.C02.divzero_iff`) some `pre_div`/`post_div` modification has value 0. -/
theorem valueOf_divZero_from_reader_or_calc (rd : Reader) (x : Item) (am : AttrMeta)
    (h : valueOf u cfg immune limited pen rd x am = .divZero) :
    (∃ y a, rd y a = .divZero ∧ (y = x ∨ y ∈ cfg.items) ∧ a ∈ readable u am) ∨
    ∃ tx b mods cap, itemType? u cfg x = some tx ∧ baseOf tx am = some b ∧
      gather u cfg immune rd x tx am.id = .ok mods ∧ capOf rd x am = .ok cap ∧
      calculate pen am.stackable am.hig b mods cap (limited.contains am.id) = .error .divZero := by
  obtain ⟨_, ⟨⟩⟩ | ⟨⟨⟩⟩ | h' | ⟨_, h'⟩ := valueOf_cases h
  · exact Or.inl h'
  · exact Or.inr h'

/-- All outcomes of `valueOf`: a number, absent, an answer of the reader at a readable id, or a
division by zero inside `calculate`. -/
theorem valueOf_outcomes (rd : Reader) (x : Item) (am : AttrMeta) :
    (∃ v, valueOf u cfg immune limited pen rd x am = .ok v) ∨
    valueOf u cfg immune limited pen rd x am = .absent ∨
    (∃ y a, rd y a = valueOf u cfg immune limited pen rd x am ∧ (y = x ∨ y ∈ cfg.items) ∧
      a ∈ readable u am) ∨
    valueOf u cfg immune limited pen rd x am = .divZero :=
  (valueOf_cases rfl).imp_right (Or.imp_right (Or.imp_right And.left))

/-- The decidable check is the declarative rank condition: for every split
`u.attrs = pre ++ am :: post`, every id readable for `am` that has metadata occurs in `pre`. -/
theorem rankWF_iff_spec : rankWF u = true ↔
    ∀ pre am post, u.attrs = pre ++ am :: post →
      ∀ a ∈ readable u am, (attrMeta? u a).isSome = true → a ∈ pre.map (·.id) :=
  rankWF_iff u

/-- For a rank-well-formed universe and ANY configuration no table entry is the internal error, … -/
theorem evalAll_no_notWF (h : rankWF u = true) :
    ∀ entry ∈ evalAll u cfg immune limited pen, entry.2 ≠ .notWF :=
  (evalAll_tableOK ((rankWF_iff u).1 h) immune limited pen).1

/-- … every (configured item, attribute with metadata) pair has an entry, … -/
theorem evalAll_total (h : rankWF u = true) (x : Item) (hx : x ∈ cfg.items) (am : AttrMeta)
    (ha : am ∈ u.attrs) :
    ∃ entry ∈ evalAll u cfg immune limited pen, entry.1 = (x.id, am.id) :=
  (evalAll_tableOK ((rankWF_iff u).1 h) immune limited pen).2 x hx am.id (List.mem_map.2 ⟨am, ha, rfl⟩)

/-- … and no public read of any item and attribute returns the internal error. -/
theorem read_no_notWF (h : rankWF u = true) (x : Item) (a : Int) :
    read (evalAll u cfg immune limited pen) x a ≠ .notWF :=
  read_ne (.inr rfl) (evalAll_no_notWF u cfg immune limited pen h) x a

end

/-- A modifier chain 10 → 20 → 30 with 30 capped by 10, listed in rank order, is well-formed … -/
example : rankWF wfUniverse = true := by decide +kernel
/-- … and evaluates: 20 = 2·3 = 6, 30 = min (1 + 6) 3 = 3. -/
example : evalAll wfUniverse oneShipConfig specImmune specLimited (fun _ => 1) =
    [((1, 10), .ok 3), ((1, 20), .ok 6), ((1, 30), .ok 3)] := by decide +kernel
/-- The same universe listed in the wrong order is rejected. -/
example : rankWF { wfUniverse with attrs := wfUniverse.attrs.reverse } = false := by decide +kernel
/-- A 2-cycle is rejected, and its evaluation does contain the internal error. -/
example : rankWF cyclicUniverse = false := by decide +kernel
example : evalAll cyclicUniverse oneShipConfig specImmune specLimited (fun _ => 1) =
    [((1, 10), .notWF), ((1, 20), .notWF)] := by decide +kernel

end Eos.C10
