import EosModel.Range
import EosGen.Range
import Mathlib.Analysis.InnerProductSpace.PiL2
/-! # C20 — range queries form a metric on item positions

Property theorems only.  `EosGen.Range` is regenerated from
`eos/solar_system/solar_system.py` on every run, so each statement below is about
the expressions the code contains. The `sqrt` around `ctcSq` is written here (the generator checks that the
Python returns `sqrt` of the translated expression), and ℝ stands for Python floats: both are trusted. -/
namespace Eos.C20
open Eos.Range

/-- The translated expression under `sqrt` is the squared Euclidean distance (over ℚ, all inputs). -/
theorem gen_ctcSq_eq_spec (a b : P3) :
    EosGen.Range.ctcSq a.x a.y a.z b.x b.y b.z = distSq a b := by
  simp only [EosGen.Range.ctcSq, distSq]

/-- The guard of the real method, run on every placement pair, is exactly "both here". -/
theorem gen_mismatch_eq_spec : EosGen.Range.mismatchTable = specTable := by decide

/-- Items that do not both belong to the queried solar system are rejected. -/
theorem mismatch_iff (p1 p2 : Place) : mismatch p1 p2 = false ↔ (p1 = .here ∧ p2 = .here) := by
  simp [mismatch]

abbrev E3 := EuclideanSpace ℝ (Fin 3)

/-- Centre-to-centre range as the code computes it, over the reals. -/
noncomputable def ctc (p q : E3) : ℝ :=
  Real.sqrt (EosGen.Range.ctcSq (p 0) (p 1) (p 2) (q 0) (q 1) (q 2))

/-- The centre-to-centre range is the Euclidean distance. -/
theorem ctc_eq_dist (p q : E3) : ctc p q = dist p q := by
  rw [EuclideanSpace.dist_eq, Fin.sum_univ_three]
  unfold ctc EosGen.Range.ctcSq
  congr 1
  simp only [Real.dist_eq, sq_abs]
  ring

theorem ctc_symm (p q : E3) : ctc p q = ctc q p := by
  rw [ctc_eq_dist, ctc_eq_dist, dist_comm]

theorem ctc_self (p : E3) : ctc p p = 0 := by
  rw [ctc_eq_dist, dist_self]

theorem ctc_eq_zero_iff (p q : E3) : ctc p q = 0 ↔ p = q := by
  rw [ctc_eq_dist, dist_eq_zero]

theorem ctc_nonneg (p q : E3) : 0 ≤ ctc p q := by
  rw [ctc_eq_dist]; exact dist_nonneg

theorem ctc_triangle (p q r : E3) : ctc p r ≤ ctc p q + ctc q r := by
  simp only [ctc_eq_dist]; exact dist_triangle p q r

/-- Surface-to-surface range as the code computes it. -/
noncomputable def sts (p q : E3) (r1 r2 : ℝ) : ℝ := EosGen.Range.sts (ctc p q) r1 r2

/-- Surface-to-surface range is the distance reduced by both radii, never below zero. -/
theorem sts_eq (p q : E3) (r1 r2 : ℝ) : sts p q r1 r2 = max 0 (dist p q - r1 - r2) := by
  unfold sts EosGen.Range.sts; rw [ctc_eq_dist]

theorem sts_nonneg (p q : E3) (r1 r2 : ℝ) : 0 ≤ sts p q r1 r2 := by
  rw [sts_eq]; exact le_max_left _ _

theorem sts_le_ctc (p q : E3) (r1 r2 : ℝ) (h1 : 0 ≤ r1) (h2 : 0 ≤ r2) : sts p q r1 r2 ≤ ctc p q := by
  rw [sts_eq, ctc_eq_dist]
  apply max_le dist_nonneg
  linarith

theorem sts_symm (p q : E3) (r1 r2 : ℝ) : sts p q r1 r2 = sts q p r2 r1 := by
  rw [sts_eq, sts_eq, dist_comm]; congr 1; ring

/-- Non-vacuity: a concrete pair at distance 5 with radii 1 and 2 gives 2. -/
example : EosGen.Range.sts (5 : ℚ) 1 2 = 2 := by decide +kernel
example : EosGen.Range.ctcSq (3 : ℚ) 4 0 0 0 0 = 25 := by decide +kernel

end Eos.C20
