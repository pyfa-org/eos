import EosModel.World
import EosGen.Consts
import EosProofs.Lemmas.CalcBasic
import EosProofs.Lemmas.CalcRound
import EosProofs.Lemmas.CalcOps
import EosProofs.Lemmas.GatherNF
import EosProofs.Lemmas.AffectsTable
import EosProofs.Lemmas.ResistTable
/-! # C02 — attribute values follow the dogma modification rules exactly

`Eos.Calc.calculate` / `Eos.World.valueOf` are the hand-written specification; `EosGen.Consts` is regenerated
from `eos/calculator/map.py`, `eos/calculator/service.py`, `eos/const/*.py`, `eos/eve_obj/effect/effect.py` on
every run, so the `gen_*` theorems are about what the code says now. -/
namespace Eos.C02
open Eos.Calc Eos.World
open EosGen.Consts (modOperators penalizableOps assignmentOps additionOps multiplicationOps
  immuneCategories limitedPrecisionAttrs penaltyFactors aggregateModes affecteeFilters domains
  effectStateMap warfareBuffAttrs skillLevelAttr onlineEffectId currentSelfTypeId)

/-- "applied in operator-precedence order": the numeric order of `ModOperator` is the order the
specification folds in. -/
theorem gen_opOrder : modOperators.map (·.2) = opOrder := rfl

/-- `PENALIZABLE_OPERATORS` is the specification's `isPenalizable`. -/
theorem gen_penalizable (op : Nat) : op ∈ penalizableOps ↔ isPenalizable op = true := by
  simp [penalizableOps, isPenalizable, or_assoc, or_comm, or_left_comm]

/-- `ASSIGNMENT_OPERATORS` is `isAssign`. -/
theorem gen_assignment (op : Nat) : op ∈ assignmentOps ↔ isAssign op = true := by
  simp [assignmentOps, isAssign]

/-- `ADDITION_OPERATORS` is `isAdd`. -/
theorem gen_addition (op : Nat) : op ∈ additionOps ↔ isAdd op = true := by
  simp [additionOps, isAdd]

/-- `MULTIPLICATION_OPERATORS` is `isMul`. -/
theorem gen_multiplication (op : Nat) : op ∈ multiplicationOps ↔ isMul op = true := by
  simp only [multiplicationOps, isMul, List.mem_cons, List.not_mem_nil, or_false, Bool.or_eq_true, beq_iff_eq,
    or_assoc]

/-- Every operator with a normalisation lambda belongs to exactly one of the three classes the final
loop distinguishes, and only multiplicative operators are penalizable. -/
theorem known_classified (op : Nat) (h : knownOp op = true) :
    (isAssign op = true ∨ isAdd op = true ∨ isMul op = true) ∧
    ¬ (isAssign op = true ∧ isAdd op = true) ∧ ¬ (isAssign op = true ∧ isMul op = true) ∧
    ¬ (isAdd op = true ∧ isMul op = true) ∧ (isPenalizable op = true → isMul op = true) := by
  rcases knownOp_cases h with h | h | h | h | h | h | h | h | h | h <;> subst h <;> decide

/-- `PENALTY_IMMUNE_CATEGORY_IDS` ("non-immune sources") is the set the world specification uses. -/
theorem gen_immune (c : Int) : c ∈ immuneCategories ↔ c ∈ specImmune := by
  simp [immuneCategories, specImmune]

/-- `LIMITED_PRECISION_ATTR_IDS` ("two-digit rounding of CPU/powergrid attributes"). -/
theorem gen_limited (a : Int) : a ∈ limitedPrecisionAttrs ↔ a ∈ specLimited := by
  simp [limitedPrecisionAttrs, specLimited]

/-- `NORMALIZATION_MAP`, lambda by lambda, is the specification's `normalize` on every known
operator and every value (a zero divisor is the error outcome on both sides). -/
theorem gen_normalize_eq (op : Nat) (v : Rat) (h : knownOp op = true) :
    EosGen.Consts.normalize op v =
      match normalize op v with | .ok r => .ok r | .error _ => .divZero := by
  -- only the two divisions look at the value; the other eight lambdas agree by unfolding
  have div : EosGen.Consts.normalize 3 v = match normalize 3 v with | .ok r => .ok r | .error _ => .divZero := by
    rcases eq_or_ne v 0 with rfl | hv
    · rfl
    · rw [show normalize 3 v = .ok (1 / v - 1) from if_neg hv]; exact if_neg hv
  rcases knownOp_cases h with rfl | rfl | rfl | rfl | rfl | rfl | rfl | rfl | rfl | rfl
  exacts [rfl, rfl, div, rfl, rfl, rfl, rfl, div, rfl, rfl]

/-- The operators without a normalisation lambda are exactly the ones the specification skips. -/
theorem gen_normalize_unknown (op : Nat) (v : Rat) :
    EosGen.Consts.normalize op v = .unknownOp ↔ knownOp op = false := by
  by_cases h : knownOp op = true
  · refine ⟨fun e => ?_, fun e => by rw [h] at e; cases e⟩
    rw [gen_normalize_eq op v h] at e
    split at e <;> cases e
  · have h' : op = 0 ∨ 11 ≤ op := by
      simp only [knownOp, Bool.and_eq_true, decide_eq_true_eq] at h; omega
    refine ⟨fun _ => by simpa using h, fun _ => ?_⟩
    rcases h' with rfl | h'
    · rfl
    · obtain ⟨k, rfl⟩ := Nat.exists_eq_add_of_le h'
      rw [Nat.add_comm]; rfl

/-- The penalty table has the 11 entries `chainVal` can reach ("11-modifier cut-off"). -/
theorem gen_penalty_length : penaltyFactors.length = 11 := by decide
/-- The strongest modification of a chain is not penalised. -/
theorem gen_penalty_first : penOfList penaltyFactors 0 = 1 := by decide +kernel
/-- Every penalty factor lies in (0, 1]. -/
theorem gen_penalty_range : ∀ x ∈ penaltyFactors, 0 < x ∧ x ≤ 1 := by decide +kernel
/-- Penalty factors strictly decrease with the position in the chain. -/
theorem gen_penalty_decreasing : penaltyFactors.Pairwise (fun a b => b < a) := by decide +kernel

/-- `PENALTY_BASE` is the documented constant 0.8691199808… (= e^(−(1/2.67)²)) to ten decimals. -/
theorem gen_penalty_base :
    (8691199808 : Rat) / 10 ^ 10 < penOfList penaltyFactors 1 ∧
    penOfList penaltyFactors 1 < 8691199809 / 10 ^ 10 := by decide +kernel
/-- The factor at chain position `k` is `PENALTY_BASE ^ (k²)` (up to the rounding of the double power:
relative error below 2⁻⁴⁸). -/
theorem gen_penalty_formula : ∀ k < 11,
    |penOfList penaltyFactors k - penOfList penaltyFactors 1 ^ (k * k)| ≤
      penOfList penaltyFactors 1 ^ (k * k) / 2 ^ 48 := by decide +kernel

/-- `ModAggregateMode` numbers used by `contributions`. -/
theorem gen_aggregateModes : aggregateModes = [("stack", 1), ("minimum", 2), ("maximum", 3)] := rfl
/-- `ModAffecteeFilter` numbers used by `affectsLocal` / `passesFilter`. -/
theorem gen_affecteeFilters : affecteeFilters =
    [("item", 1), ("domain", 2), ("domain_group", 3), ("domain_skillrq", 4), ("owner_skillrq", 5)] := rfl
/-- `ModDomain` numbers used by `affectsLocal` / `resolveDomain`. -/
theorem gen_domains : domains =
    [("self", 1), ("character", 2), ("ship", 3), ("target", 4), ("other", 5)] := rfl
/-- `Effect.__effect_state_map` is `categoryState`. -/
theorem gen_effectStateMap (c s : Nat) : (c, s) ∈ effectStateMap ↔ categoryState c = some s := by
  have h : ∀ p ∈ effectStateMap, categoryState p.1 = some p.2 := by decide
  refine ⟨h (c, s), fun hc => ?_⟩
  unfold categoryState at hc
  split at hc <;> cases hc <;> decide
/-- Warfare buff attribute pairs, skill-level attribute, `online` effect, `current_self` marker. -/
theorem gen_misc : warfareBuffAttrs = [(2468, 2469), (2470, 2471), (2472, 2473), (2536, 2537)] ∧
    skillLevelAttr = 280 ∧ onlineEffectId = 16 ∧ currentSelfTypeId = -1 := ⟨rfl, rfl, rfl, rfl⟩

/-- The value depends on the multiset of gathered modifications only (set/dict iteration order of
affector registers cannot influence it; also the hash-order part of C08). -/
theorem calculate_perm (pen : Nat → Rat) (st hig : Bool) (base : Rat) {mods mods' : List Mod}
    (h : mods.Perm mods') (cap : Option Rat) (lim : Bool) :
    calculate pen st hig base mods cap lim = calculate pen st hig base mods' cap lim :=
  calculate_perm' pen st hig base h cap lim

/-- Without modifications the value is the base value, capped, and rounded iff limited. -/
theorem calculate_nil (pen : Nat → Rat) (st hig : Bool) (base : Rat) (cap : Option Rat) (lim : Bool) :
    calculate pen st hig base [] cap lim =
      .ok (let v := match cap with | some c => min base c | none => base
           if lim then round2 v else v) := by
  cases cap <;> simp [calculate_eq, foldOps_nil]

/-- A modification with an unknown operator is ignored. -/
theorem unknown_op_ignored (pen : Nat → Rat) (st hig : Bool) (base : Rat) (m : Mod) (mods : List Mod)
    (cap : Option Rat) (lim : Bool) (h : knownOp m.op = false) :
    calculate pen st hig base (m :: mods) cap lim = calculate pen st hig base mods cap lim := by
  unfold calculate; rw [normAll, if_neg (by simp [h])]

/-- The calculation fails exactly when some `pre_div` / `post_div` modification has value 0
(`ZeroDivisionError` in the normalisation lambda), wherever it stands in the list. -/
theorem divzero_iff (pen : Nat → Rat) (st hig : Bool) (base : Rat) (mods : List Mod)
    (cap : Option Rat) (lim : Bool) :
    calculate pen st hig base mods cap lim = .error .divZero ↔
      ∃ m ∈ mods, (m.op = 3 ∨ m.op = 8) ∧ m.value = 0 := by
  have : mods.any isBad = true ↔ ∃ m ∈ mods, (m.op = 3 ∨ m.op = 8) ∧ m.value = 0 := by
    simp only [List.any_eq_true, isBad_iff]
  rw [calculate_eq, ← this]
  cases mods.any isBad <;> simp

/-- ... and otherwise it yields a value. -/
theorem ok_iff (pen : Nat → Rat) (st hig : Bool) (base : Rat) (mods : List Mod)
    (cap : Option Rat) (lim : Bool) :
    (∃ r, calculate pen st hig base mods cap lim = .ok r) ↔
      ¬ ∃ m ∈ mods, (m.op = 3 ∨ m.op = 8) ∧ m.value = 0 := by
  rw [← divzero_iff pen st hig base mods cap lim]
  cases calculate pen st hig base mods cap lim with
  | ok r => simp
  | error e => cases e; simp

/-! One stack-mode modification with resistance factor 1 on base `b`.  For the penalizable operators
it is either not penalised (stackable attribute or immune source) or alone in its penalty chain
(`pen 0 = 1`, which holds for the live table by `gen_penalty_first`). -/

section ops
variable (pen : Nat → Rat) (st hig imm : Bool) (b v : Rat)

/-- `pre_assign` replaces the value. -/
theorem op_pre_assign :
    calculate pen st hig b [{ op := 1, value := v, immune := imm }] none false = .ok v := by
  rw [calculate_single pen st hig b _ rfl rfl rfl (.inl rfl),
    applyOp_assign hig (op := 1) rfl, normVal_ok (r := v) rfl]
  cases hig <;> simp [maxList, minList]

/-- `pre_mul` multiplies. -/
theorem op_pre_mul (hp : st = true ∨ imm = true ∨ pen 0 = 1) :
    calculate pen st hig b [{ op := 2, value := v, immune := imm }] none false = .ok (b * v) := by
  rw [calculate_single pen st hig b _ rfl rfl rfl (.inr hp),
    applyOp_mul hig (op := 2) rfl, prodOnePlus_cons, prodOnePlus_nil, normVal_ok (r := v - 1) rfl]
  simp

/-- `pre_div` divides (a zero divisor is the error outcome, see `divzero_iff`). -/
theorem op_pre_div (hp : st = true ∨ imm = true ∨ pen 0 = 1) (hv : v ≠ 0) :
    calculate pen st hig b [{ op := 3, value := v, immune := imm }] none false = .ok (b / v) := by
  rw [calculate_single pen st hig b _ rfl rfl (isBad_eq_false fun _ => hv) (.inr hp),
    applyOp_mul hig (op := 3) rfl, prodOnePlus_cons, prodOnePlus_nil,
    normVal_ok (op := 3) (if_neg hv), mul_one, mul_one, add_sub_cancel, mul_one_div]

/-- `mod_add` adds. -/
theorem op_mod_add :
    calculate pen st hig b [{ op := 4, value := v, immune := imm }] none false = .ok (b + v) := by
  rw [calculate_single pen st hig b _ rfl rfl rfl (.inl rfl),
    applyOp_add hig (op := 4) rfl, sumList_cons, sumList_nil, normVal_ok (r := v) rfl]
  simp

/-- `mod_sub` subtracts. -/
theorem op_mod_sub :
    calculate pen st hig b [{ op := 5, value := v, immune := imm }] none false = .ok (b - v) := by
  rw [calculate_single pen st hig b _ rfl rfl rfl (.inl rfl),
    applyOp_add hig (op := 5) rfl, sumList_cons, sumList_nil, normVal_ok (r := -v) rfl]
  simp [sub_eq_add_neg]

/-- `post_mul` multiplies. -/
theorem op_post_mul (hp : st = true ∨ imm = true ∨ pen 0 = 1) :
    calculate pen st hig b [{ op := 6, value := v, immune := imm }] none false = .ok (b * v) := by
  rw [calculate_single pen st hig b _ rfl rfl rfl (.inr hp),
    applyOp_mul hig (op := 6) rfl, prodOnePlus_cons, prodOnePlus_nil, normVal_ok (r := v - 1) rfl]
  simp

/-- `post_mul_immune` multiplies (and is never penalised). -/
theorem op_post_mul_immune :
    calculate pen st hig b [{ op := 7, value := v, immune := imm }] none false = .ok (b * v) := by
  rw [calculate_single pen st hig b _ rfl rfl rfl (.inl rfl),
    applyOp_mul hig (op := 7) rfl, prodOnePlus_cons, prodOnePlus_nil, normVal_ok (r := v - 1) rfl]
  simp

/-- `post_div` divides. -/
theorem op_post_div (hp : st = true ∨ imm = true ∨ pen 0 = 1) (hv : v ≠ 0) :
    calculate pen st hig b [{ op := 8, value := v, immune := imm }] none false = .ok (b / v) := by
  rw [calculate_single pen st hig b _ rfl rfl (isBad_eq_false fun _ => hv) (.inr hp),
    applyOp_mul hig (op := 8) rfl, prodOnePlus_cons, prodOnePlus_nil,
    normVal_ok (op := 8) (if_neg hv), mul_one, mul_one, add_sub_cancel, mul_one_div]

/-- `post_percent` adds a percentage. -/
theorem op_post_percent (hp : st = true ∨ imm = true ∨ pen 0 = 1) :
    calculate pen st hig b [{ op := 9, value := v, immune := imm }] none false = .ok (b * (1 + v / 100)) := by
  rw [calculate_single pen st hig b _ rfl rfl rfl (.inr hp),
    applyOp_mul hig (op := 9) rfl, prodOnePlus_cons, prodOnePlus_nil, normVal_ok (r := v / 100) rfl]
  simp

/-- `post_assign` replaces the value. -/
theorem op_post_assign :
    calculate pen st hig b [{ op := 10, value := v, immune := imm }] none false = .ok v := by
  rw [calculate_single pen st hig b _ rfl rfl rfl (.inl rfl),
    applyOp_assign hig (op := 10) rfl, normVal_ok (r := v) rfl]
  cases hig <;> simp [maxList, minList]

end ops

/-- "applied in operator-precedence order": the fold is the nested application in the order
1, 2, …, 10 (the numeric order of `ModOperator`, `gen_opOrder`). -/
theorem operator_order (pen : Nat → Rat) (hig : Bool) (cs : List (Nat × Rat × Bool)) (b : Rat) :
    foldOps pen hig cs b =
      applyOp hig 10 (opValues pen cs 10) (applyOp hig 9 (opValues pen cs 9)
      (applyOp hig 8 (opValues pen cs 8) (applyOp hig 7 (opValues pen cs 7)
      (applyOp hig 6 (opValues pen cs 6) (applyOp hig 5 (opValues pen cs 5)
      (applyOp hig 4 (opValues pen cs 4) (applyOp hig 3 (opValues pen cs 3)
      (applyOp hig 2 (opValues pen cs 2) (applyOp hig 1 (opValues pen cs 1) b))))))))) := by
  rfl

/-- Closed form: pre-assign (max/min by `high_is_good`) → Π pre-mul → Π pre-div → Σ add − Σ sub →
Π post-mul → Π post-mul-immune → Π post-div → Π post-percent → post-assign, each product / sum over
the unpenalised normalised values plus the penalised aggregate of that operator. -/
theorem foldOps_closedForm (pen : Nat → Rat) (hig : Bool) (cs : List (Nat × Rat × Bool)) (b : Rat) :
    foldOps pen hig cs b =
      (if hig then maxList (opValues pen cs 10) else minList (opValues pen cs 10)).getD
        ((((if hig then maxList (opValues pen cs 1) else minList (opValues pen cs 1)).getD b
            * prodOnePlus (opValues pen cs 2) * prodOnePlus (opValues pen cs 3)
            + sumList (opValues pen cs 4) + sumList (opValues pen cs 5))
          * prodOnePlus (opValues pen cs 6) * prodOnePlus (opValues pen cs 7)
          * prodOnePlus (opValues pen cs 8) * prodOnePlus (opValues pen cs 9))) := by
  rw [operator_order, applyOp_assign hig (op := 10) rfl, applyOp_mul hig (op := 9) rfl,
    applyOp_mul hig (op := 8) rfl, applyOp_mul hig (op := 7) rfl, applyOp_mul hig (op := 6) rfl,
    applyOp_add hig (op := 5) rfl, applyOp_add hig (op := 4) rfl, applyOp_mul hig (op := 3) rfl,
    applyOp_mul hig (op := 2) rfl, applyOp_assign hig (op := 1) rfl]

/-- `prodOnePlus` / `sumList` in the closed form are the plain product of `1 + v` and the plain sum. -/
theorem prod_sum_meaning (x : Rat) (xs : List Rat) :
    prodOnePlus [] = 1 ∧ prodOnePlus (x :: xs) = (1 + x) * prodOnePlus xs ∧
    sumList [] = 0 ∧ sumList (x :: xs) = x + sumList xs :=
  ⟨rfl, prodOnePlus_cons x xs, rfl, sumList_cons x xs⟩

/-- Concrete corollary, whatever the gathering order: `post_percent`, `mod_add`, `pre_mul` on a
stackable attribute give `(b·v₁ + v₂)·(1 + v₃/100)`. -/
theorem operator_order_example (pen : Nat → Rat) (hig : Bool) (b v1 v2 v3 : Rat) :
    calculate pen true hig b
      [{ op := 9, value := v3 }, { op := 4, value := v2 }, { op := 2, value := v1 }] none false =
      .ok ((b * v1 + v2) * (1 + v3 / 100)) := by
  rw [calculate_stack _ _ _ _ _ rfl]
  simp only [List.map_cons, List.map_nil]
  rw [foldOps_closedForm]
  simp [opValues, maxList, minList, prodOnePlus, sumList, normVal, normalize]

/-- Assignments: the greatest value wins when `high_is_good`, the least otherwise. -/
theorem assign_picks (op : Nat) (h : isAssign op = true) (vs : List Rat) (hne : vs ≠ []) (value : Rat) :
    (∃ m, applyOp true op vs value = m ∧ m ∈ vs ∧ ∀ y ∈ vs, y ≤ m) ∧
    (∃ m, applyOp false op vs value = m ∧ m ∈ vs ∧ ∀ y ∈ vs, m ≤ y) := by
  rw [applyOp_assign true h, applyOp_assign false h]
  obtain ⟨m, hm⟩ := maxList_isSome hne
  obtain ⟨m', hm'⟩ := minList_isSome hne
  simp only [if_true, hm, Bool.false_eq_true, if_false, hm', Option.getD_some]
  exact ⟨⟨m, rfl, (maxList_spec vs m).1 hm⟩, ⟨m', rfl, (minList_spec vs m').1 hm'⟩⟩

/-- Concrete corollary: two `pre_assign` modifications. -/
theorem assign_two (pen : Nat → Rat) (st hig : Bool) (b v1 v2 : Rat) :
    calculate pen st hig b [{ op := 1, value := v1 }, { op := 1, value := v2 }] none false =
      .ok (if hig then max v1 v2 else min v1 v2) := by
  rw [calculate_stack _ _ _ _ _ rfl]
  simp only [List.map_cons, List.map_nil]
  rw [foldOps_closedForm]
  simp [opValues, prodOnePlus, sumList, normVal, normalize, isPenalizable]
  cases hig <;> simp [maxList, minList]

/-- The strongest modification of a chain is weighted by `pen 0`: with `pen 0 = 1`
(`gen_penalty_first`) a single penalised modification is in effect unpenalised. -/
theorem penalize_single_unpenalised (pen : Nat → Rat) (h0 : pen 0 = 1) (v : Rat) :
    penalize pen [v] = v := by
  rw [penalize_single, h0, mul_one]

/-- The `i`-th element (from 0) of a chain contributes the factor `1 + v·pen i` … -/
theorem chain_step (pen : Nat → Rat) (i : Nat) (v : Rat) (vs : List Rat) (h : i ≤ 10) :
    chainVal pen i (v :: vs) = (1 + v * pen i) * chainVal pen (i + 1) vs :=
  chainVal_cons_le pen i v vs h

/-- … and the 12th and further elements are ignored. -/
theorem chain_cutoff (pen : Nat → Rat) (l ex : List Rat) (h : 11 ≤ l.length) :
    chainVal pen 0 (l ++ ex) = chainVal pen 0 l :=
  chainVal_append_cut pen l ex 0 (by omega)

/-- The chains of `penalize` are sorted strongest first: the non-negative reduced multipliers in
descending order, the negative ones in ascending order (most negative first); both are
rearrangements of the respective inputs. -/
theorem chains_strongest_first (vs : List Rat) :
    (sortDesc (vs.filter fun v => decide (0 ≤ v))).Perm (vs.filter fun v => decide (0 ≤ v)) ∧
    (sortDesc (vs.filter fun v => decide (0 ≤ v))).Pairwise (fun a b => b ≤ a) ∧
    (sortAsc (vs.filter fun v => decide (v < 0))).Perm (vs.filter fun v => decide (v < 0)) ∧
    (sortAsc (vs.filter fun v => decide (v < 0))).Pairwise (fun a b => a ≤ b) :=
  ⟨sortDesc_perm _, sortDesc_pairwise _, sortAsc_perm _, sortAsc_pairwise _⟩

/-- The penalised aggregate, independently of the sorting algorithm: for ANY descending arrangement
`pos` of the non-negative values and ANY ascending arrangement `neg` of the negative ones it is
`chain(pos)·chain(neg) − 1`. -/
theorem penalize_formula (pen : Nat → Rat) (vs pos neg : List Rat)
    (hp : pos.Perm (vs.filter fun v => decide (0 ≤ v))) (hps : pos.Pairwise (fun a b => b ≤ a))
    (hn : neg.Perm (vs.filter fun v => decide (v < 0))) (hns : neg.Pairwise (fun a b => a ≤ b)) :
    penalize pen vs = chainVal pen 0 pos * chainVal pen 0 neg - 1 :=
  penalize_eq pen vs pos neg hp hps hn hns

/-- "stacking penalty for non-stackable attributes from non-immune sources": a modification is
penalised iff the attribute is not stackable, the source category is not immune and the operator is
penalizable. -/
theorem penalty_exempt (st : Bool) (m : Mod) (n : NMod) (h : normMod st m = .ok n) :
    n.pen = (!st && !m.immune && isPenalizable m.op) := by
  rw [normMod_eq] at h
  split at h
  · cases h
  · cases h; rfl

/-- Without penalised contributions every operator sees the plain list of values, and the penalty
table plays no role. -/
theorem unpenalised_plain (pen pen' : Nat → Rat) (hig : Bool) (cs : List (Nat × Rat × Bool)) (b : Rat)
    (h : ∀ c ∈ cs, c.2.2 = false) :
    (∀ op, opValues pen cs op = (cs.filter fun c => c.1 == op).map (·.2.1)) ∧
    foldOps pen hig cs b = foldOps pen' hig cs b := by
  refine ⟨fun op => opValues_no_pen pen cs op h, ?_⟩
  unfold foldOps
  congr 1; funext value op
  rw [opValues_no_pen pen cs op h, opValues_no_pen pen' cs op h]

/-- Concrete corollary: two equal non-negative `post_mul` bonuses `1 + v` from non-immune sources on a
non-stackable attribute give `b·(1 + v)·(1 + v·pen 1)`. -/
theorem two_equal_penalised (pen : Nat → Rat) (h0 : pen 0 = 1) (hig : Bool) (b v : Rat) (hv : 0 ≤ v) :
    calculate pen false hig b [{ op := 6, value := v + 1 }, { op := 6, value := v + 1 }] none false =
      .ok (b * ((1 + v) * (1 + v * pen 1))) := by
  have hpz : penalize pen [v, v] = (1 + v * pen 0) * ((1 + v * pen 1) * 1) * 1 - 1 :=
    penalize_formula pen [v, v] [v, v] [] (by simp [hv]) (by simp) (by simp [not_lt.2 hv]) (by simp)
  rw [calculate_stack _ _ _ _ _ rfl]
  simp only [List.map_cons, List.map_nil]
  rw [foldOps_closedForm]
  simp [opValues, maxList, minList, prodOnePlus, sumList, normVal, normalize, isPenalizable, hpz, h0]

/-- Aggregate-minimum: the pick is a member of the group, no member has a smaller value, and among
the members with that value an unpenalised one is preferred. -/
theorem aggregate_min_pick (l : List NMod) (v : Rat) (p : Bool) :
    pickMin l = some (v, p) ↔
      (∃ n ∈ l, n.v = v ∧ n.pen = p) ∧ ∀ n ∈ l, v < n.v ∨ (v = n.v ∧ (p = true → n.pen = true)) := by
  rw [pickMin, pickMinPair_spec, List.forall_mem_map]
  simp only [List.mem_map, Prod.mk.injEq]

/-- Aggregate-maximum: the pick is a member of the group, no member has a greater value, and among
the members with that value an unpenalised one is preferred. -/
theorem aggregate_max_pick (l : List NMod) (v : Rat) (p : Bool) :
    pickMax l = some (v, p) ↔
      (∃ n ∈ l, n.v = v ∧ n.pen = p) ∧ ∀ n ∈ l, n.v < v ∨ (v = n.v ∧ (p = true → n.pen = true)) := by
  -- `pickMax` is `pickMinPair` on the negated values
  have h : pickMax l = some (v, p) ↔ pickMinPair (l.map fun n => (-n.v, n.pen)) = some (-v, p) := by
    unfold pickMax
    cases pickMinPair (l.map fun n => (-n.v, n.pen)) with
    | none => simp
    | some q => simp [Prod.ext_iff, neg_eq_iff_eq_neg]
  rw [h, pickMinPair_spec, List.forall_mem_map]
  simp only [List.mem_map, Prod.mk.injEq, neg_inj, neg_lt_neg_iff]

/-- "min/max aggregation per key": the contributions are all stack-mode modifications, then exactly
one pick for each distinct `(operator, key)` of the minimum mode and one for each of the maximum
mode (keys without repetition, each the key of some member; the pick is taken over the whole group). -/
theorem one_contribution_per_group (ns : List NMod) :
    contributions ns = ((ns.filter (·.agg == 1)).map fun n => (n.op, n.v, n.pen)) ++
      groupPart ns 2 pickMin ++ groupPart ns 3 pickMax ∧
    List.Forall₂ (fun k c => c.1 = k.1 ∧ pickMin (groupOf ns 2 k) = some c.2)
      (keysOf ns 2) (groupPart ns 2 pickMin) ∧
    List.Forall₂ (fun k c => c.1 = k.1 ∧ pickMax (groupOf ns 3 k) = some c.2)
      (keysOf ns 3) (groupPart ns 3 pickMax) ∧
    (∀ mode, (keysOf ns mode).Nodup ∧
      (∀ k, k ∈ keysOf ns mode ↔ ∃ n ∈ ns, n.agg = mode ∧ (n.op, n.key) = k) ∧
      ∀ k n, n ∈ groupOf ns mode k ↔ n ∈ ns ∧ n.agg = mode ∧ n.op = k.1 ∧ n.key = k.2) :=
  ⟨contributions_eq ns, groupPart_forall₂ ns 2 pickMin pickMin_isSome,
    groupPart_forall₂ ns 3 pickMax pickMax_isSome,
    fun mode => ⟨nodup_dedup _, mem_keysOf ns mode, mem_groupOf ns mode⟩⟩

/-- "scaling by the target's resistance attribute": the normalised value is multiplied by the
resistance factor. -/
theorem resist_scaling (st : Bool) (m : Mod) (n : NMod) (h : normMod st m = .ok n) :
    ∃ r, normalize m.op m.value = .ok r ∧ n.v = r * m.resist ∧ n.op = m.op := by
  unfold normMod at h
  cases hn : normalize m.op m.value with
  | error e => rw [hn] at h; cases h
  | ok r => rw [hn] at h; cases h; exact ⟨r, rfl, rfl, rfl⟩

/-- Resistance factor 0 (100 % resistance) nullifies a stack-mode multiplicative modification: the
result is the value without it. -/
theorem resist_zero_nullifies (pen : Nat → Rat) (st hig : Bool) (b : Rat) (m : Mod) (mods : List Mod)
    (cap : Option Rat) (lim : Bool) (hm : isMul m.op = true) (hagg : m.agg = 1) (hr : m.resist = 0)
    (hv : (m.op = 3 ∨ m.op = 8) → m.value ≠ 0) :
    calculate pen st hig b (m :: mods) cap lim = calculate pen st hig b mods cap lim := by
  have hb := isBad_eq_false hv
  have hf : List.filter (fun m : Mod => knownOp m.op) (m :: mods) =
      m :: List.filter (fun m : Mod => knownOp m.op) mods :=
    List.filter_cons_of_pos (by simpa using isMul_known hm)
  have h0 : (nmOf st m).v = 0 := by simp [nmOf, hr]
  rw [calculate_eq, calculate_eq, List.any_cons, hb, Bool.false_or, hf, List.map_cons,
    contributions_cons_stack _ _ (show (nmOf st m).agg = 1 from hagg), h0,
    foldOps_cons_zero pen hig _ _ (show isMul (nmOf st m).op = true from hm)]

/-- "capping by the max attribute": the capped value is the minimum of the uncapped value and the cap. -/
theorem cap_eq_min (pen : Nat → Rat) (st hig : Bool) (b : Rat) (mods : List Mod) (c : Rat) :
    calculate pen st hig b mods (some c) false =
      (calculate pen st hig b mods none false).map fun v => min v c := by
  unfold calculate; cases normAll st mods <;> rfl

/-- A capped, unrounded value never exceeds its cap. -/
theorem cap_le (pen : Nat → Rat) (st hig : Bool) (b : Rat) (mods : List Mod) (c r : Rat)
    (h : calculate pen st hig b mods (some c) false = .ok r) : r ≤ c := by
  rw [cap_eq_min] at h
  cases hc : calculate pen st hig b mods none false with
  | error e => rw [hc] at h; cases h
  | ok v => rw [hc] at h; cases h; exact min_le_right _ _

/-- "two-digit rounding of CPU/powergrid attributes": rounding is the last step and happens only
for limited-precision attributes. -/
theorem round_only_limited (pen : Nat → Rat) (st hig : Bool) (b : Rat) (mods : List Mod) (cap : Option Rat) :
    calculate pen st hig b mods cap true = (calculate pen st hig b mods cap false).map round2 ∧
    ∀ lim, calculate pen st hig b mods cap lim =
      (calculate pen st hig b mods cap false).map fun v => if lim then round2 v else v := by
  refine ⟨?_, fun lim => ?_⟩ <;> unfold calculate <;> cases normAll st mods <;> rfl

/-- `round2` is rounding to the nearest hundredth, ties to the even neighbour: `round2 x = r/100` with
`r` an integer at distance ≤ 1/2 from `100·x`, and `r` even when the distance is exactly 1/2. -/
theorem round2_spec (x : Rat) :
    (∃ r : Int, round2 x = (r : Rat) / 100 ∧ |(r : Rat) - x * 100| ≤ 1 / 2 ∧
      (|(r : Rat) - x * 100| = 1 / 2 → r % 2 = 0)) ∧
    (∃ k : Int, round2 x * 100 = (k : Rat)) ∧ |round2 x - x| ≤ 1 / 200 := by
  obtain ⟨r, hr, hb, he⟩ := round2_char x
  refine ⟨⟨r, hr, hb, he⟩, ⟨r, by rw [hr, div_mul_cancel₀]; norm_num⟩, ?_⟩
  have e : round2 x - x = ((r : Rat) - x * 100) / 100 := by rw [hr]; ring
  rw [e, abs_le, le_div_iff₀ (by norm_num), div_le_iff₀ (by norm_num),
    show -(1 / 200 : Rat) * 100 = -(1 / 2) by norm_num, show (1 / 200 : Rat) * 100 = 1 / 2 by norm_num]
  exact abs_le.1 hb

/-! World level.  `rd` is how dependencies (source attributes, resistance, cap, buff ids) are read; `evalAll` passes
the table of higher-ranked attributes.  `baseOf tx am` is the type's value of the attribute, else the
attribute default; `capOf rd x am` reads the max attribute on the same item (`EosProofs/Lemmas/CalcWorld`,
`valueOf_eq` shows `valueOf` is literally composed of them). -/

section world
variable (u : Universe) (cfg : Config) (immune limited : List Int) (pen : Nat → Rat) (rd : Reader)
  (x : Item) (am : AttrMeta)

/-- A skill's skill-level attribute is its level, whatever else is configured. -/
theorem skill_level (hk : x.kind = .skill) (ha : am.id = 280) :
    valueOf u cfg immune limited pen rd x am = (x.level.map Val.ok).getD .absent := by
  unfold valueOf; rw [if_pos (by simp [hk, ha])]; cases x.level <;> rfl

/-- "Items which are not loaded have no attributes at all". -/
theorem absent_not_loaded (hs : ¬ (x.kind = .skill ∧ am.id = 280)) (h : loaded u cfg x = false) :
    valueOf u cfg immune limited pen rd x am = .absent := by
  rw [valueOf_absent_iff, if_neg hs]
  intro tx ht
  simp [loaded, ht] at h

/-- "an attribute without base and default value is absent". -/
theorem absent_without_base (hs : ¬ (x.kind = .skill ∧ am.id = 280)) (tx : ItemType)
    (ht : itemType? u cfg x = some tx) (hb : tx.attrs.find? (·.1 == am.id) = none)
    (hd : am.default = none) :
    valueOf u cfg immune limited pen rd x am = .absent := by
  rw [valueOf_absent_iff, if_neg hs]
  intro tx' ht'
  cases ht.symm.trans ht'
  simp [baseOf, hb, hd]

/-- ... and only then: the value is absent exactly for an unset skill level, an item that is not
loaded, or an attribute with neither a base value on the item type nor a default (errors while
gathering, reading the cap or dividing are never reported as "absent"). -/
theorem absent_iff :
    valueOf u cfg immune limited pen rd x am = .absent ↔
      if x.kind = .skill ∧ am.id = 280 then x.level = none
      else ∀ tx, itemType? u cfg x = some tx → baseOf tx am = none :=
  valueOf_absent_iff immune limited pen rd x am

/-- What `baseOf` and `capOf` read. -/
theorem base_cap_reading (tx : ItemType) :
    (∀ p, tx.attrs.find? (·.1 == am.id) = some p → baseOf tx am = some p.2) ∧
    (tx.attrs.find? (·.1 == am.id) = none → baseOf tx am = am.default) ∧
    (am.maxAttr = none → capOf rd x am = .ok none) ∧
    (∀ mx, am.maxAttr = some mx →
      (∀ c, rd x mx = .ok c → capOf rd x am = .ok (some c)) ∧
      (rd x mx = .absent → capOf rd x am = .ok none) ∧
      (rd x mx = .divZero → capOf rd x am = .error .divZero) ∧
      (rd x mx = .notWF → capOf rd x am = .error .notWF)) := by
  refine ⟨fun p h => by simp [baseOf, h], fun h => by simp [baseOf, h], fun h => by simp [capOf, h],
    fun mx h => ⟨fun c hc => by simp [capOf, h, hc], fun hc => by simp [capOf, h, hc],
      fun hc => by simp [capOf, h, hc], fun hc => by simp [capOf, h, hc]⟩⟩

/-- The value of a loaded item's attribute is `calculate` of the base value, the gathered
modifications and the cap (division by zero reported as such). -/
theorem value_is_calculate (hs : ¬ (x.kind = .skill ∧ am.id = 280)) (tx : ItemType)
    (ht : itemType? u cfg x = some tx) (b : Rat) (hb : baseOf tx am = some b)
    (mods : List Mod) (hg : gather u cfg immune rd x tx am.id = .ok mods)
    (cap : Option Rat) (hc : capOf rd x am = .ok cap) :
    valueOf u cfg immune limited pen rd x am =
      (match calculate pen am.stackable am.hig b mods cap (limited.contains am.id) with
       | .ok v => .ok v
       | .error _ => .divZero) := by
  rw [valueOf_eq]; unfold valueWith; rw [if_neg (by simpa using hs), ht]
  simp only [hb, hg, hc]
  generalize calculate pen am.stackable am.hig b mods cap (limited.contains am.id) = r
  cases r <;> rfl

/-- With nothing gathered the value is the base value (type value, else attribute default), capped by
the max attribute when that has a value, and rounded iff limited: no other item or effect enters. -/
theorem value_without_mods (hs : ¬ (x.kind = .skill ∧ am.id = 280)) (tx : ItemType)
    (ht : itemType? u cfg x = some tx) (b : Rat) (hb : baseOf tx am = some b)
    (hg : gather u cfg immune rd x tx am.id = .ok []) (cap : Option Rat) (hc : capOf rd x am = .ok cap) :
    valueOf u cfg immune limited pen rd x am =
      .ok (let v := (cap.map fun c => min b c).getD b
           if limited.contains am.id then round2 v else v) := by
  rw [value_is_calculate u cfg immune limited pen rd x am hs tx ht b hb [] hg cap hc, calculate_nil]
  cases cap <;> rfl

/-- "No other item or effect influences the value": every gathered modification comes from a configured,
loaded item, one of its currently running effects and a modifier of that effect (or a warfare buff modifier it
spawns) that targets this attribute and selects `x` — locally, projected onto the item's current target, or as a
fleet boost — and it carries that modifier's operator and aggregate mode/key, its source value on the item, the
effect's resistance factor against `x` and the item's immunity flag. -/
theorem gather_sound (tx : ItemType) (attr : Int) (mods : List Mod)
    (h : gather u cfg immune rd x tx attr = .ok mods) :
    ∀ md ∈ mods, ∃ a ∈ cfg.items, ∃ ta, itemType? u cfg a = some ta ∧
      ∃ e ∈ runningEffects u cfg a, ∃ m : Modifier,
        m.tgtAttr = attr ∧ rd a m.srcAttr = .ok md.value ∧ resistOf cfg rd e x = .ok md.resist ∧
        md.op = m.op ∧ md.agg = m.agg ∧ md.aggKey = m.aggKey ∧
        md.immune = (match ta.category with | some c => immune.contains c | none => false) ∧
        ((m ∈ e.mods ∧ affectsLocal cfg a m x tx = true) ∨
         (m ∈ e.mods ∧ m.domain = 4 ∧
            ∃ tg ∈ projectionTargets cfg a e, affectsProjected cfg a m tg x tx = true) ∨
         (e.isBuff = true ∧
            ((∃ bms, buffModifiers u rd a = .ok bms ∧ m ∈ bms) ∨ (m ∈ e.mods ∧ m.domain = 4)) ∧
            ∃ tg ∈ boostTargets cfg a.fit, affectsProjected cfg a m tg x tx = true)) :=
  gather_prov h

/-- "transformed by exactly the modifications of currently running effects whose affectee filter
selects that item": conversely, every modifier of a running effect of a configured, loaded item that
targets the attribute, has a source value and selects `x` (in one of the same three ways) has its
modification in the gathered list. -/
theorem gather_complete (tx : ItemType) (attr : Int) (mods : List Mod)
    (h : gather u cfg immune rd x tx attr = .ok mods)
    (a : Item) (ha : a ∈ cfg.items) (ta : ItemType) (hta : itemType? u cfg a = some ta)
    (e : Effect) (he : e ∈ runningEffects u cfg a) (m : Modifier) (hm : m.tgtAttr = attr)
    (v : Rat) (hv : rd a m.srcAttr = .ok v)
    (hsel : (m ∈ e.mods ∧ affectsLocal cfg a m x tx = true) ∨
         (m ∈ e.mods ∧ m.domain = 4 ∧
            ∃ tg ∈ projectionTargets cfg a e, affectsProjected cfg a m tg x tx = true) ∨
         (e.isBuff = true ∧
            ((∃ bms, buffModifiers u rd a = .ok bms ∧ m ∈ bms) ∨ (m ∈ e.mods ∧ m.domain = 4)) ∧
            ∃ tg ∈ boostTargets cfg a.fit, affectsProjected cfg a m tg x tx = true)) :
    ∃ r, resistOf cfg rd e x = .ok r ∧
      ({ op := m.op, value := v, resist := r, agg := m.agg, aggKey := m.aggKey,
         immune := (match ta.category with | some c => immune.contains c | none => false) } : Mod) ∈ mods :=
  Eos.World.gather_complete h ha hta he hm hv hsel

end world

/-! ## I. Which items a modifier selects: the regenerated table

`EosGen.AffectsTable` is regenerated on every run by `tools/gen/affects_table.py` from the real code run on designed
worlds, one modifier per world (axes and procedure: header of `EosGen/AffectsTable.lean`).  For every item it records
whether the attribute is modified: `modified` in the world built from scratch, `modifiedInc` after cache-filling reads
(effect started / target set afterwards); `valid` is the verdict of `DogmaModifier._valid` on the real modifier object.
By definition `specLocal c = affectsLocal c.cfg c.a c.m c.x c.tx` and
`specProjected c = affectsProjected c.cfg c.a c.m c.t c.x c.tx`.

The kernel evaluates a check of the generated rows (`LocalRow.ok` …, `EosModel/AffectsSpec.lean`) that computes the
selection in a form of its own; `Lemmas/Selection.lean` and `Lemmas/GatherVia.lean` prove for all inputs what it means.
So the statements below are about the specification's own functions on every case, not about the checker. -/

section affectsTable
open Eos.AffectsSpec
open EosGen.AffectsTable (localCases projectedCases localCaseCount localModifiedCount localValidCount
  projectedCaseCount projectedModifiedCount projectedValidCount)

/-- "whose affectee filter selects that item", local modifiers: on every case of the regenerated table whose
modifier the library's validation accepts, the specification's `affectsLocal`, evaluated on the recorded
configuration, is what the real code did in the world built from scratch. -/
theorem affects_table_matches_spec :
    ∀ c ∈ localCases, c.valid = true → specLocal c = c.modified :=
  fun c hc => (local_table.all c hc).spec_eq_scr

/-- The projected twin (effect category target, modifier domain target, applied to the projector's target):
on every case with a valid modifier `affectsProjected` is what the real code did in the world built from
scratch. -/
theorem affects_table_matches_spec_projected :
    ∀ c ∈ projectedCases, c.valid = true → specProjected c = c.modified :=
  fun c hc => (proj_table.all c hc).spec_eq_scr

/-- The incremental observation (every item read first, then the effect started / the target set) is the
specification's answer on EVERY case of either table, valid modifier or not: the items the code invalidates and
then recalculates with the modification are exactly the selected ones. -/
theorem affects_table_incremental_matches_spec :
    (∀ c ∈ localCases, specLocal c = c.modifiedInc) ∧ (∀ c ∈ projectedCases, specProjected c = c.modifiedInc) :=
  ⟨fun c hc => (local_table.all c hc).inc.symm, fun c hc => (proj_table.all c hc).inc.symm⟩

/-- Outside the domain — modifiers the library's own validation rejects: in a world built from scratch the real
code still does what the specification says, except for a `domain_group` modifier without group argument, which
selects exactly the group-less items of the (resolved) domain — of the affector's fit for a local modifier, aboard
the targeted ship for a projected one.  (Pinned so that a change of the code there is noticed too; not a property
clause.) -/
theorem affects_table_invalid_rows_observed :
    (∀ c ∈ localCases, c.valid = false →
      c.modified = if groupNoneRow c.m then observedGroupNoneLocal c else specLocal c) ∧
    (∀ c ∈ projectedCases, c.valid = false →
      c.modified = if groupNoneRow c.m then observedGroupNoneProj c else specProjected c) :=
  ⟨fun c hc _ => (local_table.all c hc).scr, fun c hc _ => (proj_table.all c hc).scr⟩

/-- Every `domain_group` modifier without group argument in the table is one the validation rejects. -/
theorem affects_table_group_none_invalid :
    (∀ c ∈ localCases, groupNoneRow c.m = true → c.valid = false) ∧
    (∀ c ∈ projectedCases, groupNoneRow c.m = true → c.valid = false) :=
  ⟨fun c hc => (local_table.all c hc).rejected, fun c hc => (proj_table.all c hc).rejected⟩

/-- The validity hypothesis of `affects_table_matches_spec` cannot be dropped: outside the domain there are
recorded cases (of either table) where the real code leaves the specification. -/
theorem affects_table_invalid_rows_disagree :
    (∃ c ∈ localCases, c.valid = false ∧ specLocal c ≠ c.modified) ∧
    (∃ c ∈ projectedCases, c.valid = false ∧ specProjected c ≠ c.modified) :=
  ⟨local_disagreement, proj_disagreement⟩

/-- The cases are well-formed observations: the type recorded next to an item is that item's type. -/
theorem affects_table_types_aligned :
    (∀ c ∈ localCases, c.x.typeId = c.tx.id) ∧ (∀ c ∈ projectedCases, c.x.typeId = c.tx.id) :=
  ⟨fun c hc => (local_table.all c hc).typed, fun c hc => (proj_table.all c hc).typed⟩

/-- The numbers of cases, of "modified" cases and of cases with a valid modifier of either table are the
generator's own numerals (`EosGen/AffectsTable.lean`): nothing was lost between the generator and the theorems.  That
the product of the axes is complete, and that the counts are not zero, is not stated. -/
theorem affects_table_complete :
    localCases.length = localCaseCount ∧ localCases.countP (·.modified) = localModifiedCount ∧
    localCases.countP (·.valid) = localValidCount ∧
    projectedCases.length = projectedCaseCount ∧
    projectedCases.countP (·.modified) = projectedModifiedCount ∧
    projectedCases.countP (·.valid) = projectedValidCount :=
  ⟨local_table.length, local_table.countF, local_table.countG, proj_table.length, proj_table.countF,
    proj_table.countG⟩

/-! ### Resistance: which carrier's attribute scales a projected modification

`EosGen.ResistTable` is regenerated on every run by `tools/gen/resist_table.py`: a projected effect with a
resistance attribute (present on the carriers / absent / id 0 / no id) x projector class x modifier filter x target
x every item of the world; every type has its own resistance value, so the observed factor names the item whose
attribute the real code read (`get_modifications`: `effect.resist_attr_id`, `affectee._solsys_carrier`).  `obs` /
`obsInc` are `none` (not modified) or `some r` (modified, factor `r`) from scratch / incrementally.  By definition
`specResist c = if affectsProjected c.cfg c.a c.m c.t c.x c.tx then some (resistOf c.cfg rd c.e c.x) else some none`
(`none` if `resistOf` errs), with `rd = baseReader c.u c.cfg` reading type values (nothing modifies the source and
resistance attributes in these worlds). -/

open EosGen.ResistTable (resistCases resistCaseCount resistModifiedCount resistValidCount)

/-- "resist": on EVERY case of the regenerated table — modifiers the library's validation accepts and the
`owner_skillrq` ones it rejects for domain target alike — selection and resistance factor of the specification
(`affectsProjected`, `resistOf`: the ship for items aboard it, a drone / fighter squad for itself, none otherwise;
1 without resistance attribute or value) are what the real code applied, under both observations. -/
theorem resist_table_matches_spec :
    ∀ c ∈ resistCases, specResist c = some c.obs ∧ specResist c = some c.obsInc :=
  fun c hc => ⟨(resist_table.all c hc).scr, (resist_table.all c hc).inc⟩

/-- `gather` itself (through `runningEffects`, `projectionTargets`, `affectsProjected`, `resistOf` and `mk`): for
every case the specification gathers, for the targeted attribute of the item, nothing — or exactly one
modification with the modifier's operator, the projector's source value and the observed resistance factor.
Attributes are read with `baseReader` (type values): this is what `gather` collects, not the value computed from it. -/
theorem resist_table_gather_matches :
    ∀ c ∈ resistCases, ∃ v, baseReader c.u c.cfg c.a c.m.srcAttr = .ok v ∧
      gatherOutcome (gather c.u c.cfg specImmune (baseReader c.u c.cfg) c.x c.tx c.m.tgtAttr) c.m.op v =
        some c.obs :=
  fun c hc => (resist_table.all c hc).gather

/-- The numbers of cases, of "modified" cases and of cases with a valid modifier are the generator's own numerals
(`EosGen/ResistTable.lean`). -/
theorem resist_table_complete :
    resistCases.length = resistCaseCount ∧ resistCases.countP (·.obs.isSome) = resistModifiedCount ∧
    resistCases.countP (·.valid) = resistValidCount :=
  ⟨resist_table.length, resist_table.countF, resist_table.countG⟩

end affectsTable

/-! Non-vacuity; `livePen` is the regenerated penalty table. -/

section examples
local notation "livePen" => penOfList penaltyFactors

/-- Two orders of the same modifications, and the value they give. -/
example : calculate livePen true true 100 [{ op := 6, value := 11/10 }, { op := 4, value := 5 }] none false =
    calculate livePen true true 100 [{ op := 4, value := 5 }, { op := 6, value := 11/10 }] none false :=
  calculate_perm _ _ _ _ (List.Perm.swap _ _ _) _ _
example : calculate livePen true true 100 [{ op := 6, value := 11/10 }, { op := 4, value := 5 }] none false
    = .ok (231/2) := by decide +kernel
/-- A zero divisor anywhere in the list, an unknown operator, the empty list with cap and rounding. -/
example : calculate livePen false true 100 [{ op := 4, value := 5 }, { op := 8, value := 0 }] none false =
    .error .divZero := (divzero_iff _ _ _ _ _ _ _).2 ⟨{ op := 8, value := 0 }, by simp, Or.inr rfl, rfl⟩
example : calculate livePen false true 100 [{ op := 11, value := 5 }, { op := 4, value := 5 }] none false =
    .ok 105 := by decide +kernel
example : calculate livePen false true (1001/8) [] (some 200) true = .ok (3128/25) := by decide +kernel
/-- A single penalizable modification under the live table (`pen 0 = 1`), and two equal ones. -/
example : calculate livePen false true 10 [{ op := 6, value := 3 }] none false = .ok (10 * 3) :=
  op_post_mul livePen false true false 10 3 (Or.inr (Or.inr gen_penalty_first))
example : calculate livePen false true 100 [{ op := 6, value := 1/10 + 1 }, { op := 6, value := 1/10 + 1 }]
    none false = .ok (100 * ((1 + 1/10) * (1 + 1/10 * livePen 1))) :=
  two_equal_penalised livePen gen_penalty_first true 100 (1/10) (by decide +kernel)
example : livePen 1 < 1 ∧ 0 < livePen 1 := by decide +kernel
/-- A twelve-element chain equals its first eleven elements. -/
example (pen : Nat → Rat) : chainVal pen 0 ([1, 1, 1, 1, 1, 1, 1, 1, 1, 1, 1] ++ [7]) =
    chainVal pen 0 [1, 1, 1, 1, 1, 1, 1, 1, 1, 1, 1] := chain_cutoff pen _ _ (by decide)
/-- Ties between a penalised and an unpenalised member resolve to the unpenalised one; one pick per key. -/
example : pickMin [⟨6, 1, true, 2, none⟩, ⟨6, 1, false, 2, none⟩, ⟨6, 2, false, 2, none⟩] = some (1, false) ∧
    pickMax [⟨6, 2, true, 3, none⟩, ⟨6, 2, false, 3, none⟩, ⟨6, 1, false, 3, none⟩] = some (2, false) := by
  decide +kernel
example : contributions [⟨6, 1, false, 2, some 5⟩, ⟨6, 3, false, 2, some 5⟩, ⟨6, 2, false, 2, some 8⟩,
    ⟨6, 4, false, 1, none⟩] = [(6, 4, false), (6, 1, false), (6, 2, false)] := by decide +kernel
/-- Resistance 0, cap, half-even rounding (0.125 → 0.12, 0.135 → 0.14, 0.375 → 0.38). -/
example : calculate livePen true true 100 [{ op := 6, value := 3, resist := 0 }, { op := 4, value := 1 }] none
    false = .ok 101 := by decide +kernel
example : calculate livePen true true 100 [{ op := 6, value := 3 }] (some 250) false = .ok 250 := by
  decide +kernel
example : round2 (1/8) = 3/25 ∧ round2 (27/200) = 7/50 ∧ round2 (3/8) = 19/50 := by decide +kernel
/-- The two-item world of `Lemmas/CalcWorld`: the module's attribute 20 multiplies the ship's
attribute 37; the module has the default of attribute 37; the ship has no attribute 20. -/
example : evalAll exUniverse exConfig specImmune specLimited livePen =
    [((1, 20), .absent), ((2, 20), .ok (3/2)), ((1, 37), .ok 150), ((2, 37), .ok 0)] := by decide +kernel
example : gather exUniverse exConfig specImmune (fun _ _ => .ok (3/2)) exShip
    ⟨1, none, some 6, none, [(37, 100)], [], []⟩ 37 = .ok [{ op := 6, value := 3/2 }] := by decide +kernel

end examples

end Eos.C02
