import EosGen.FleetTable4
namespace Eos.C13
open Eos.AffectsSpec EosGen.FleetTable

theorem fleet_block4_ok : fleetBlockOk blockF4 blockF4Cases blockF4Boosted = true := by decide +kernel

end Eos.C13
