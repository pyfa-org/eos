import EosModel.Calc
import Mathlib.Tactic.Ring
import Mathlib.Tactic.Linarith
/-! Python `round(x, 2)` on exact rationals: nearest hundredth, ties to the even neighbour. -/
namespace Eos.Calc

theorem round2_char (x : Rat) : ∃ r : Int, round2 x = (r : Rat) / 100 ∧
    |(r : Rat) - x * 100| ≤ 1 / 2 ∧ (|(r : Rat) - x * 100| = 1 / 2 → r % 2 = 0) := by
  -- with `d` the fractional part of `100·x`, the distance to the floor is `d` and to the ceiling `1 - d`
  have hd0 : 0 ≤ x * 100 - ((x * 100).floor : Rat) := sub_nonneg.2 (Rat.floor_le _)
  have hd1 : 0 < (((x * 100).floor + 1 : Int) : Rat) - x * 100 := sub_pos.2 (Rat.lt_floor_add_one _)
  have half : (1 : Rat) - 1 / 2 = 1 / 2 := by norm_num
  unfold round2
  simp only []
  generalize (x * 100).floor = f at *
  have hB : |((f + 1 : Int) : Rat) - x * 100| = 1 - (x * 100 - f) := by
    rw [abs_of_pos hd1, Int.cast_add, Int.cast_one]; ring
  generalize hd : x * 100 - (f : Rat) = d at *
  have hA : |(f : Rat) - x * 100| = d := by rw [abs_sub_comm, hd, abs_of_nonneg hd0]
  rcases lt_trichotomy d (1 / 2) with h | h | h
  · exact ⟨f, by rw [if_pos h], hA ▸ h.le, fun e => absurd (hA ▸ e) h.ne⟩
  · subst h
    by_cases h3 : f % 2 = 0
    · exact ⟨f, by rw [if_neg (lt_irrefl _), if_neg (lt_irrefl _), if_pos h3], hA ▸ le_rfl, fun _ => h3⟩
    · exact ⟨f + 1, by rw [if_neg (lt_irrefl _), if_neg (lt_irrefl _), if_neg h3], hB ▸ half.le,
        fun _ => Int.even_iff.1 (Int.even_add_one.2 (mt Int.even_iff.1 h3))⟩
  · have hd' : 1 - d < 1 / 2 := sub_lt_comm.2 (half.symm ▸ h)
    exact ⟨f + 1, by rw [if_neg (not_lt.2 h.le), if_pos h], hB ▸ hd'.le, fun e => absurd (hB ▸ e) hd'.ne⟩

theorem round2_of_int (k : Int) : round2 ((k : Rat) / 100) = (k : Rat) / 100 := by
  unfold round2
  have : (k : Rat) / 100 * 100 = (k : Rat) := by rw [div_mul_cancel₀]; norm_num
  simp only [this, Rat.floor_intCast, sub_self]
  norm_num

end Eos.Calc
