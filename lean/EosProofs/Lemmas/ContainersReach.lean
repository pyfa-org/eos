import EosProofs.Lemmas.ContainersInv
/-! The full invariant of the container model (`Inv`): the ownership invariant, keyed containers agree with
their inner set (`KeyedInv`), `fit.skills` files every item under its type id (`TuInv`).  It is preserved by every
operation (`step_inv`), so it holds in every world reachable from the empty one (`run_inv`, `Reachable`); and an
operation that answers with an error returns the state it was given (`step_error_same`, the core of C06). -/
namespace Eos.Containers

structure KeyedInv (s : World) (c : SetId) : Prop where
  vals : (s.keyed c).map Prod.snd = s.sets c
  keys : ((s.keyed c).map Prod.fst).Nodup

theorem KeyedInv.of_sameAt {s s' : World} {c : SetId} (h : KeyedInv s c) (e : SameAt s s' (.set c)) : KeyedInv s' c :=
  ⟨by rw [e.1, e.2]; exact h.vals, by rw [e.2]; exact h.keys⟩

theorem KeyedInv.of_frame {t : Option SetId} {s s' : World} {c : SetId} (h : KeyedInv s c) (hf : Frame t s s')
    (hc : some c ≠ t) : KeyedInv s' c :=
  h.of_sameAt (hf.2 c hc)

theorem KeyedInv.add {s : World} {c : SetId} {key i : Nat} (h : KeyedInv s c) (hk : lookupKey key (s.keyed c) = none) :
    KeyedInv (((s.setKeyed c ((key, i) :: s.keyed c)).setSet c (i :: s.sets c)).setOwner i (some (.set c))) c :=
  ⟨by simp [h.vals], by simp [h.keys, lookupKey_eq_none_iff.1 hk]⟩

theorem KeyedInv.remove {s : World} {c : SetId} {key i : Nat} (h : KeyedInv s c) (hnd : (s.sets c).Nodup)
    (hk : lookupKey key (s.keyed c) = some i) :
    KeyedInv (((s.setOwner i none).setSet c ((s.sets c).erase i)).setKeyed c (delKey key (s.keyed c))) c :=
  ⟨by simpa [h.vals] using map_snd_delKey h.keys hk (h.vals ▸ hnd),
   by simpa using List.Nodup.sublist ((delKey_sublist key _).map Prod.fst) h.keys⟩

theorem KeyedInv.len {s : World} {c : SetId} (h : KeyedInv s c) : keyedLen s c = setLen s c := by
  unfold keyedLen setLen; rw [← h.vals, List.length_map]

theorem KeyedInv.lookup_mem {s : World} {c : SetId} (h : KeyedInv s c) {k i : Nat} (hl : lookupKey k (s.keyed c) = some i) :
    i ∈ s.sets c := by
  rw [← h.vals]; exact List.mem_map_of_mem (f := Prod.snd) (lookupKey_some_mem hl)

theorem KeyedInv.mem_lookup {s : World} {c : SetId} (h : KeyedInv s c) {i : Nat} (hi : i ∈ s.sets c) :
    ∃ k, lookupKey k (s.keyed c) = some i := by
  rw [← h.vals, List.mem_map] at hi
  obtain ⟨⟨k, v⟩, hm, rfl⟩ := hi
  exact ⟨k, mem_lookupKey h.keys hm⟩

/-- Membership of fits in a solar system or fleet (`mem`) agrees with `fit._solar_system` / `fit._fleet` (`back`).
Not a field of `Inv`: that the fit-set operations keep it is proved nowhere in this development. -/
structure BackInv (mem : Nat → List Nat) (back : Nat → Option Nat) : Prop where
  iff : ∀ g f, f ∈ mem g ↔ back f = some g
  nodup : ∀ g, (mem g).Nodup

theorem BackInv.remove {mem : Nat → List Nat} {back : Nat → Option Nat} (h : BackInv mem back) {g f : Nat}
    (hf : f ∈ mem g) : BackInv (upd mem g ((mem g).erase f)) (upd back f none) :=
  have b := BackRef.remove (p := g) ⟨h.iff, h.nodup⟩ (fun _ => rfl) (IsInsertion.of_mem_erase hf) rfl
  ⟨b.iff, b.nodup⟩

structure TuInv (U : Univ) (s : World) (f : Nat) : Prop where
  keyed : KeyedInv s (.skills f)
  tid : ∀ e ∈ s.keyed (.skills f), e.1 = U.tid e.2

theorem TuInv.lookup {U : Univ} {s : World} {f i : Nat} (h : TuInv U s f) (hi : i ∈ s.sets (.skills f)) :
    lookupKey (U.tid i) (s.keyed (.skills f)) = some i := by
  obtain ⟨k, hk⟩ := h.keyed.mem_lookup hi
  exact h.tid _ (lookupKey_some_mem hk) ▸ hk

structure Inv (U : Univ) (s : World) : Prop where
  own : OwnInv s
  tu : ∀ f, TuInv U s f
  dict : ∀ m, KeyedInv s (.auto m)

theorem Inv.empty (U : Univ) : Inv U World.empty where
  own := OwnInv.empty
  tu := fun _ => ⟨⟨rfl, List.nodup_nil⟩, fun _ h => by simp [World.empty] at h⟩
  dict := fun _ => ⟨rfl, List.nodup_nil⟩

/-- What `Inv` says of one set-like container beyond ownership. -/
def SetInv (U : Univ) (s : World) : SetId → Prop
  | .skills f => TuInv U s f
  | .auto m => KeyedInv s (.auto m)
  | .plain _ _ => True

theorem Inv.set {U : Univ} {s : World} (h : Inv U s) : ∀ c, SetInv U s c
  | .skills f => h.tu f
  | .auto m => h.dict m
  | .plain _ _ => trivial

theorem SetInv.of_sameAt {U : Univ} {s s' : World} {c : SetId} (h : SetInv U s c) (e : SameAt s s' (.set c)) :
    SetInv U s' c := by
  cases c with
  | skills f => exact ⟨h.keyed.of_sameAt e, by rw [e.2]; exact h.tid⟩
  | auto m => exact KeyedInv.of_sameAt h e
  | plain f k => trivial

theorem tuRemove_spec {U : Univ} {s : World} {f : Nat} (h : TuInv U s f) (v : Option Nat) :
    Spec s (fun s' => ∃ i, v = some i ∧ KeyedRemoveOk s (.skills f) (U.tid i) i s') (tuRemove U s f v) := by
  unfold tuRemove
  cases v with
  | none => exact .error _
  | some i =>
    refine (keyedRemove_spec s _ _ _ fun j hj hm => by cases hj; rw [h.lookup hm]; rfl).mono ?_
    rintro _ ⟨_, ⟨⟩, hq⟩; exact ⟨_, rfl, hq⟩

theorem tuDel_spec {U : Univ} {s : World} {f : Nat} (h : TuInv U s f) (t : Nat) :
    Spec s (fun s' => ∃ i, KeyedRemoveOk s (.skills f) (U.tid i) i s') (tuDel U s f t) := by
  unfold tuDel
  split
  · exact .error _
  · refine (tuRemove_spec h _).mono ?_; rintro _ ⟨j, _, hq⟩; exact ⟨j, hq⟩

theorem OwnInv.of_contPart {s s' : World} (h : OwnInv s) (e : s'.contPart = s.contPart) : OwnInv s' := by
  simp only [World.contPart, Prod.mk.injEq] at e
  obtain ⟨hlists, hsets, _, hslots, howner⟩ := e
  have hc : ∀ q, contents s' q = contents s q := by
    intro q; cases q <;> simp [contents, hlists, hsets, hslots]
  exact h.same hc howner (h.noTrail_of_lists hlists)

theorem step_rack_spec (U : Univ) {s : World} (hnt : ∀ f r, NoTrail (s.lists f r)) {op : Op} {f r : Nat}
    (hp : op.site = some (.rack f r)) : Spec s (RackMove s f r) (step U s op) := by
  have h := hnt f r
  cases op <;> cases hp
  case insert index v => exact (listInsert_spec U s f r index v h).mono fun _ hq => hq.move h
  case append v => refine (listAppend_spec U s f r v).mono ?_; rintro _ ⟨_, _, hq⟩; exact hq.move h
  case place index v => refine (listPlace_spec U s f r index v h).mono ?_; rintro _ ⟨_, _, _, _, _, hq⟩; exact hq.move h
  case equip v => refine (listEquip_spec U s f r v h).mono ?_; rintro _ ⟨_, _, _, _, hq⟩; exact hq.move h
  case removeIdx index =>
    refine (listAtIdx_spec _ (listRemoveAt_ok s f r) index).mono ?_; rintro _ ⟨_, _, hk, rfl⟩; exact listRemoveAt_move hk
  case removeVal v =>
    refine (listAtVal_spec _ (listRemoveAt_ok s f r) v).mono ?_; rintro _ ⟨_, hk, _, rfl⟩
    exact listRemoveAt_move (lt_length_of_getElem? hk)
  case freeIdx index =>
    refine (listAtIdx_spec _ (listFreeAt_ok s f r) index).mono ?_; rintro _ ⟨_, _, hk, rfl⟩; exact listFreeAt_move hk
  case freeVal v =>
    refine (listAtVal_spec _ (listFreeAt_ok s f r) v).mono ?_; rintro _ ⟨_, hk, _, rfl⟩
    exact listFreeAt_move (lt_length_of_getElem? hk)
  case clear => exact .ok .clear

theorem KeyedAddOk.keyed {s s' : World} {c : SetId} {key i : Nat} (hq : KeyedAddOk s c key i s') (h : OwnInv s)
    (hk : KeyedInv s c) : KeyedInv s' c ∧ s'.keyed c = (key, i) :: s.keyed c := by
  rw [hq.add.eq (h.setKeyed c _)]
  exact ⟨hk.add hq.free, by simp⟩

theorem KeyedRemoveOk.keyed {s s' : World} {c : SetId} {key i : Nat} (hq : KeyedRemoveOk s c key i s') (h : OwnInv s)
    (hk : KeyedInv s c) (hl : lookupKey key (s.keyed c) = some i) :
    KeyedInv s' c ∧ s'.keyed c = delKey key (s.keyed c) := by
  obtain ⟨_, rfl⟩ := hq
  exact ⟨hk.remove (h.nodup (.set c)) hl, by simp⟩

theorem keyedClear_keyed (s : World) (c : SetId) : KeyedInv (keyedClear s c).2 c := by
  refine ⟨?_, ?_⟩ <;> simp [keyedClear, setClear]

theorem KeyedAddOk.tu {U : Univ} {s s' : World} {f i : Nat} (hq : KeyedAddOk s (.skills f) (U.tid i) i s') (o : OwnInv s)
    (h : TuInv U s f) : TuInv U s' f := by
  obtain ⟨h1, h2⟩ := hq.keyed o h.keyed
  exact ⟨h1, h2 ▸ List.forall_mem_cons.2 ⟨rfl, h.tid⟩⟩

theorem KeyedRemoveOk.tu {U : Univ} {s s' : World} {f i : Nat} (hq : KeyedRemoveOk s (.skills f) (U.tid i) i s')
    (o : OwnInv s) (h : TuInv U s f) : TuInv U s' f := by
  obtain ⟨h1, h2⟩ := hq.keyed o h.keyed (h.lookup hq.mem)
  exact ⟨h1, fun e he => h.tid e ((delKey_sublist _ _).subset (h2 ▸ he))⟩

/-- What an operation does where it works: refused with the state as it was, or accepted with ownership kept and the
key map of the set it addresses, if any, in order.  The other sets follow by the frame rule `step_sameAt` (`step_inv`). -/
theorem step_local (U : Univ) {s : World} (h : Inv U s) (op : Op) :
    Spec s (fun s' => OwnInv s' ∧ match op.site with | some (.set c) => SetInv U s' c | _ => True) (step U s op) := by
  have o := h.own
  cases op with
  | insert f r | append f r | place f r | equip f r | removeIdx f r | removeVal f r | freeIdx f r | freeVal f r
  | clear f r => exact (step_rack_spec U o.noTrail rfl).mono fun _ hm => ⟨hm.own o, trivial⟩
  | ssAdd | ssRemove | ssClear | flAdd | flRemove | flClear | setDmg | setRah =>
    exact (step_fit_spec U s rfl).mono fun _ e => ⟨o.of_contPart e, trivial⟩
  | assign c v => exact (assign_spec U o c v).mono fun _ hq => ⟨hq.own o, trivial⟩
  | setAdd f k v => exact (setAdd_spec U s _ v).mono fun _ ⟨_, _, hq⟩ => ⟨hq.own o, trivial⟩
  | setRemove f k v => exact (setRemove_spec s _ v).mono fun _ ⟨_, _, hm, e⟩ => ⟨e ▸ o.setRemoveCore hm, trivial⟩
  | setClear f k => exact .ok ⟨setClear_own o _, trivial⟩
  | tuAdd f v =>
    exact (tuAdd_spec U s f v).mono fun _ ⟨_, _, hq⟩ => ⟨hq.add.own (o.setKeyed _ _), hq.tu o (h.tu f)⟩
  | tuRemove f v => exact (tuRemove_spec (h.tu f) v).mono fun _ ⟨_, _, hq⟩ => ⟨hq.own o, hq.tu o (h.tu f)⟩
  | tuDel f t => exact (tuDel_spec (h.tu f) t).mono fun _ ⟨_, hq⟩ => ⟨hq.own o, hq.tu o (h.tu f)⟩
  | tuClear f =>
    exact .ok ⟨keyedClear_own o _, keyedClear_keyed s _, fun e he => by simp [setClear] at he⟩
  | dictSet m key v =>
    exact (keyedAdd_spec U s _ key v).mono fun _ ⟨_, _, hq⟩ => ⟨hq.add.own (o.setKeyed _ _), (hq.keyed o (h.dict m)).1⟩
  | dictDel m key =>
    exact (dictDel_spec s m key).mono fun _ ⟨_, hl, hq⟩ => ⟨hq.own o, (hq.keyed o (h.dict m) hl).1⟩
  | dictClear m => exact .ok ⟨keyedClear_own o _, keyedClear_keyed s _⟩

theorem step_inv (U : Univ) {s : World} (h : Inv U s) (op : Op) : Inv U (step U s op).2 := by
  obtain ⟨o, hl⟩ := (step_local U h op).snd ⟨h.own, by
    split
    · exact h.set _
    · trivial⟩
  have hs : ∀ c, SetInv U (step U s op).2 c := fun c =>
    if hc : op.site = some (.set c) then by rw [hc] at hl; exact hl else (h.set c).of_sameAt (step_sameAt U s op hc)
  exact ⟨o, fun f => hs (.skills f), fun m => hs (.auto m)⟩

theorem run_inv (U : Univ) {s : World} (h : Inv U s) (ops : List Op) : Inv U (run U s ops) := by
  induction ops generalizing s with
  | nil => exact h
  | cons op ops ih => exact ih (step_inv U h op)

theorem step_error_same (U : Univ) {s : World} (h : Inv U s) {op : Op} {e : Err} {s' : World}
    (he : step U s op = (.error e, s')) : s' = s :=
  (step_local U h op).error_same he

theorem step_eq_error {U : Univ} {s : World} (h : Inv U s) {op : Op} {e : Err} (h1 : (step U s op).1 = .error e) :
    step U s op = (.error e, s) :=
  Prod.ext h1 (step_error_same U h (Prod.ext h1 rfl))

def Reachable (U : Univ) (s : World) : Prop := ∃ ops, s = run U World.empty ops

theorem reachable_inv {U : Univ} {s : World} (h : Reachable U s) : Inv U s := by
  obtain ⟨ops, rfl⟩ := h
  exact run_inv U (Inv.empty U) ops

theorem run_append (U : Univ) (s : World) (ops : List Op) (op : Op) : run U s (ops ++ [op]) = (step U (run U s ops) op).2 := by
  induction ops generalizing s with
  | nil => rfl
  | cons o os ih => exact ih _

theorem reachable_step {U : Univ} {s : World} (h : Reachable U s) (op : Op) : Reachable U (step U s op).2 := by
  obtain ⟨ops, rfl⟩ := h
  exact ⟨ops ++ [op], (run_append U _ ops op).symm⟩

end Eos.Containers

