import EosProofs.Lemmas.RestrSpec
/-! C03: every key a restriction reports is the id of an item record or of an item placed in a container, never a
rack hole. -/
namespace Eos.Restr
open Eos.Toggle

theorem item?_mem {cfg : Snapshot} {i : Nat} {it : Item} (h : cfg.item? i = some it) : it ∈ cfg.items ∧ it.id = i := by
  unfold Snapshot.item? at h
  exact ⟨List.mem_of_find?_eq_some h, by simpa using List.find?_some h⟩

theorem derivedCfg_key {r : RegSpec} {cfg : Snapshot} {e : Nat × Payload} (h : e ∈ derivedCfg r cfg) :
    e.1 ∈ cfg.ids := by
  obtain ⟨it, hit, _, _, hid⟩ := (mem_derivedCfg (i := e.1) (d := e.2)).1 h
  exact hid ▸ mem_ids_of_mem hit

theorem withTd_key {cfg : Snapshot} {i : Nat} {f : Item → TypeData → Option ErrData} {p : Nat × ErrData}
    (h : withTd cfg i f = some p) : p.1 = i := by
  unfold withTd at h
  split at h
  · split at h
    · obtain ⟨d, _, rfl⟩ := Option.map_eq_some_iff.1 h; rfl
    · cases h; rfl
  · cases h; rfl

theorem withCharge_key {cfg : Snapshot} {i : Nat} {f : Item → Item → Option (Nat × ErrData)} {p : Nat × ErrData}
    (h : withCharge cfg i f = some p)
    (hf : ∀ it ch q, f it ch = some q → q.1 = ch.id ∨ q.1 = i) : p.1 = i ∨ p.1 ∈ cfg.ids := by
  unfold withCharge at h
  split at h
  · split at h
    · split at h
      · rename_i ch hch
        rcases hf _ _ _ h with h1 | h1
        · right; rw [h1]; exact mem_ids_of_mem (item?_mem hch).1
        · left; exact h1
      · cases h; left; rfl
    · cases h
  · cases h; left; rfl

theorem check_key (t : RType) (cfg : Snapshot) (reg : Reg Payload) (e : Nat × Payload) {q : Nat × ErrData}
    (h : check t cfg reg e = some q) : q.1 = e.1 ∨ q.1 ∈ cfg.ids := by
  cases t <;> simp only [check] at h
  case capitalItem | droneGroup | skillRequirement | state => exact .inl (withTd_key h)
  case rigSize =>
    split at h
    · exact .inl (withTd_key h)
    · cases h
  -- checks that read the payload only: the key is `e.1` on every branch
  case maxGroupFitted | maxGroupOnline | maxGroupActive | shipTypeGroup | subsystemIndex | implantIndex | boosterIndex =>
    left; repeat' split at h
    all_goals cases h <;> rfl
  -- the charge checks report the charge (an item record) or the container
  case chargeGroup =>
    split at h
    · refine withCharge_key h fun it ch q' hq' => ?_
      left; repeat' split at hq'
      all_goals cases hq' <;> rfl
    · cases h; exact .inl rfl
  case chargeSize =>
    refine withCharge_key h fun it ch q' hq' => ?_
    repeat' split at hq'
    all_goals cases hq' <;> first | exact .inl rfl | exact .inr rfl
  case chargeVolume =>
    refine withCharge_key h fun it ch q' hq' => ?_
    left; repeat' split at hq'
    all_goals cases hq' <;> rfl
  all_goals cases h

theorem ruleReg_key (t : RType) (reg : Reg Payload) (cfg : Snapshot) {p : Nat × ErrData}
    (h : p ∈ ruleReg t reg cfg) : p.1 ∈ reg.map (·.1) ∨ p.1 ∈ cfg.ids := by
  unfold ruleReg at h
  split at h
  · cases h
  · obtain ⟨e, he, hq⟩ := List.mem_filterMap.1 h
    rcases check_key t cfg reg e hq with h1 | h1
    · left; rw [h1]; exact List.mem_map_of_mem he
    · right; exact h1

theorem ruleResource_key {cfg : Snapshot} {users : List Item} {u o : Nat} {r : Bool} {p : Nat × ErrData}
    (hu : ∀ it ∈ users, it ∈ cfg.items) (h : p ∈ ruleResource cfg users u o r) : p.1 ∈ cfg.ids := by
  unfold ruleResource at h
  extract_lets missing uses raw used output at h    -- substituting the `let`s instead copies `uses` into every place that reads `used`
  split at h
  · obtain ⟨it, hit, rfl⟩ := List.mem_map.1 h
    exact mem_ids_of_mem (hu it (List.mem_filter.1 hit).1)
  · obtain ⟨_, h⟩ := List.mem_ite_nil_left.1 h
    obtain ⟨x, hx, hp⟩ := List.mem_filterMap.1 h
    obtain ⟨it, hit, hm⟩ := List.mem_filterMap.1 hx
    obtain ⟨v, _, rfl⟩ := Option.map_eq_some_iff.1 hm
    split at hp
    · cases hp
    · cases hp; exact mem_ids_of_mem (hu it hit)

theorem ruleSlotUsers_key {users : List Nat} {total : Int} {p : Nat × ErrData}
    (h : p ∈ ruleSlotUsers users total) : p.1 ∈ users := by
  unfold ruleSlotUsers at h
  simp only at h
  split at h
  · obtain ⟨i, hi, rfl⟩ := List.mem_map.1 h; exact hi
  · cases h

theorem ruleOrdered_key {rack : List (Option Nat)} {total : Int} {p : Nat × ErrData}
    (h : p ∈ ruleOrdered rack total) : p.1 ∈ rack.filterMap id := by
  unfold ruleOrdered at h
  simp only at h
  split at h
  · obtain ⟨i, hi, rfl⟩ := List.mem_map.1 h
    obtain ⟨o, ho, hoi⟩ := List.mem_filterMap.1 hi
    exact List.mem_filterMap.2 ⟨o, List.mem_of_mem_drop ho, hoi⟩
  · cases h

theorem ruleItemClass_key {cfg : Snapshot} {p : Nat × ErrData} (h : p ∈ ruleItemClass cfg) : p.1 ∈ cfg.ids := by
  obtain ⟨it, hit, hp⟩ := List.mem_filterMap.1 h
  cases htd : it.td with
  | none => simp [htd] at hp
  | some td =>
    simp only [htd, Option.ite_none_left_eq_some, Option.some.injEq] at hp
    rw [← hp.2]; exact mem_ids_of_mem hit

theorem ruleLoadedItem_key {cfg : Snapshot} {p : Nat × ErrData} (h : p ∈ ruleLoadedItem cfg) : p.1 ∈ cfg.ids := by
  obtain ⟨it, hit, hp⟩ := List.mem_filterMap.1 h
  split at hp <;> cases hp
  exact mem_ids_of_mem hit

theorem ruleStateless_key (t : RType) (cfg : Snapshot) {p : Nat × ErrData} (h : p ∈ ruleStateless t cfg) :
    p.1 ∈ cfg.ids ∨ p.1 ∈ cfg.placed := by
  have sub : ∀ {f : Item → Bool}, ∀ it ∈ cfg.items.filter f, it ∈ cfg.items := fun it h => (List.mem_filter.1 h).1
  cases t
  case cpu | powergrid | calibration | dronebayVolume | droneBandwidth =>
    exact .inl (ruleResource_key sub h)
  case launchedDrone | turretSlot | launcherSlot | fighterSquadSupport | fighterSquadLight | fighterSquadHeavy =>
    obtain ⟨it, hit, e⟩ := List.mem_map.1 (ruleSlotUsers_key h)
    exact .inl (e ▸ mem_ids_of_mem (sub it hit))
  case rigSlot | subsystemSlot | fighterSquad =>
    have := ruleSlotUsers_key h
    exact .inr (by simp only [Snapshot.placed, List.mem_append, this, true_or, or_true])
  case highSlot | midSlot | lowSlot =>
    have := ruleOrdered_key h
    exact .inr (by simp only [Snapshot.placed, List.mem_append, List.filterMap_append, this, true_or, or_true])
  case itemClass => exact .inl (ruleItemClass_key h)
  case loadedItem => exact .inl (ruleLoadedItem_key h)
  all_goals cases h

theorem rule_key (t : RType) (cfg : Snapshot) {p : Nat × ErrData}
    (h : p ∈ rule t (derivedCfg (regSpec t) cfg) cfg) : p.1 ∈ cfg.ids ∨ p.1 ∈ cfg.placed := by
  unfold rule at h
  split at h
  · rcases ruleReg_key t _ cfg h with h1 | h1
    · obtain ⟨e, he, hep⟩ := List.mem_map.1 h1
      exact Or.inl (hep ▸ derivedCfg_key he)
    · exact Or.inl h1
  · exact ruleStateless_key t cfg h

end Eos.Restr
