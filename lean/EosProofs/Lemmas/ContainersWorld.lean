import EosProofs.Lemmas.ContainersList
/-! World-level facts of the container model: setter algebra, contents of places after an update, and the
ownership invariant `OwnInv`.  That containers and back-references agree is said for any family of containers
(`BackRef`), with its three preservation lemmas (an item enters a container, leaves it, the container is
emptied). -/
namespace Eos.Containers

section upd
variable {α β : Type} [DecidableEq α]
@[simp] theorem upd_same (f : α → β) (a : α) (b : β) : upd f a b a = b := by simp [upd]
theorem upd_other (f : α → β) {a x : α} (b : β) (h : x ≠ a) : upd f a b x = f x := by simp [upd, h]
@[simp] theorem upd_upd (f : α → β) (a : α) (b c : β) : upd (upd f a b) a c = upd f a c := by
  funext x; simp [upd]; split <;> rfl
@[simp] theorem upd_self (f : α → β) (a : α) : upd f a (f a) = f := by
  funext x; simp [upd]; intro h; rw [h]
theorem upd_apply (f : α → β) (a x : α) (b : β) : upd f a b x = if x = a then b else f x := rfl
end upd

@[simp] theorem setList_lists_same (s : World) (f r : Nat) (l : List (Option Nat)) : (s.setList f r l).lists f r = l := by
  simp [World.setList]
theorem setList_lists (s : World) (f r f' r' : Nat) (l : List (Option Nat)) :
    (s.setList f r l).lists f' r' = if f' = f ∧ r' = r then l else s.lists f' r' := rfl
@[simp] theorem setList_setList (s : World) (f r : Nat) (a b : List (Option Nat)) :
    (s.setList f r a).setList f r b = s.setList f r b := by
  unfold World.setList
  congr 1
  funext f' r'; dsimp only; split <;> rfl
@[simp] theorem setList_self (s : World) (f r : Nat) : s.setList f r (s.lists f r) = s := by
  have : (fun f' r' => if f' = f ∧ r' = r then s.lists f r else s.lists f' r') = s.lists := by
    funext f' r'; split
    · next h => rw [h.1, h.2]
    · rfl
  unfold World.setList; rw [this]
@[simp] theorem setSet_setSet (s : World) (c : SetId) (a b : List Nat) : (s.setSet c a).setSet c b = s.setSet c b := by
  simp only [World.setSet, upd_upd]
@[simp] theorem setSet_self (s : World) (c : SetId) : s.setSet c (s.sets c) = s := by
  simp only [World.setSet, upd_self]
@[simp] theorem setKeyed_setKeyed (s : World) (c : SetId) (a b : List (Nat × Nat)) :
    (s.setKeyed c a).setKeyed c b = s.setKeyed c b := by
  simp only [World.setKeyed, upd_upd]
@[simp] theorem setKeyed_self (s : World) (c : SetId) : s.setKeyed c (s.keyed c) = s := by
  simp only [World.setKeyed, upd_self]
@[simp] theorem setSlot_setSlot (s : World) (c : SlotId) (a b : Option Nat) : (s.setSlot c a).setSlot c b = s.setSlot c b := by
  simp only [World.setSlot, upd_upd]
@[simp] theorem setSlot_self (s : World) (c : SlotId) : s.setSlot c (s.slots c) = s := by
  simp only [World.setSlot, upd_self]
@[simp] theorem setOwner_setOwner (s : World) (i : Nat) (a b : Option Place) :
    (s.setOwner i a).setOwner i b = s.setOwner i b := by
  simp only [World.setOwner, upd_upd]
@[simp] theorem setOwner_self (s : World) (i : Nat) : s.setOwner i (s.owner i) = s := by
  simp only [World.setOwner, upd_self]
theorem setOwner_setSlot (s : World) (i : Nat) (o : Option Place) (c : SlotId) (v : Option Nat) :
    (s.setOwner i o).setSlot c v = (s.setSlot c v).setOwner i o := rfl

@[simp] theorem setList_owner (s : World) (f r : Nat) (l : List (Option Nat)) : (s.setList f r l).owner = s.owner := rfl
@[simp] theorem setSet_owner (s : World) (c : SetId) (l : List Nat) : (s.setSet c l).owner = s.owner := rfl
@[simp] theorem setKeyed_owner (s : World) (c : SetId) (l : List (Nat × Nat)) : (s.setKeyed c l).owner = s.owner := rfl
@[simp] theorem setSlot_owner (s : World) (c : SlotId) (v : Option Nat) : (s.setSlot c v).owner = s.owner := rfl
@[simp] theorem setOwner_owner (s : World) (i : Nat) (o : Option Place) : (s.setOwner i o).owner = upd s.owner i o := rfl
@[simp] theorem setOwner_lists (s : World) (i : Nat) (o : Option Place) : (s.setOwner i o).lists = s.lists := rfl
@[simp] theorem setOwner_sets (s : World) (i : Nat) (o : Option Place) : (s.setOwner i o).sets = s.sets := rfl
@[simp] theorem setOwner_keyed (s : World) (i : Nat) (o : Option Place) : (s.setOwner i o).keyed = s.keyed := rfl
@[simp] theorem setOwner_slots (s : World) (i : Nat) (o : Option Place) : (s.setOwner i o).slots = s.slots := rfl
@[simp] theorem setSet_sets (s : World) (c : SetId) (l : List Nat) : (s.setSet c l).sets = upd s.sets c l := rfl
@[simp] theorem setSet_keyed (s : World) (c : SetId) (l : List Nat) : (s.setSet c l).keyed = s.keyed := rfl
@[simp] theorem setSet_lists (s : World) (c : SetId) (l : List Nat) : (s.setSet c l).lists = s.lists := rfl
@[simp] theorem setSet_slots (s : World) (c : SetId) (l : List Nat) : (s.setSet c l).slots = s.slots := rfl
@[simp] theorem setKeyed_sets (s : World) (c : SetId) (l : List (Nat × Nat)) : (s.setKeyed c l).sets = s.sets := rfl
@[simp] theorem setKeyed_keyed (s : World) (c : SetId) (l : List (Nat × Nat)) : (s.setKeyed c l).keyed = upd s.keyed c l := rfl
@[simp] theorem setKeyed_lists (s : World) (c : SetId) (l : List (Nat × Nat)) : (s.setKeyed c l).lists = s.lists := rfl
@[simp] theorem setKeyed_slots (s : World) (c : SetId) (l : List (Nat × Nat)) : (s.setKeyed c l).slots = s.slots := rfl
@[simp] theorem setSlot_slots (s : World) (c : SlotId) (v : Option Nat) : (s.setSlot c v).slots = upd s.slots c v := rfl
@[simp] theorem setSlot_sets (s : World) (c : SlotId) (v : Option Nat) : (s.setSlot c v).sets = s.sets := rfl
@[simp] theorem setSlot_keyed (s : World) (c : SlotId) (v : Option Nat) : (s.setSlot c v).keyed = s.keyed := rfl
@[simp] theorem setSlot_lists (s : World) (c : SlotId) (v : Option Nat) : (s.setSlot c v).lists = s.lists := rfl
@[simp] theorem setList_sets (s : World) (f r : Nat) (l : List (Option Nat)) : (s.setList f r l).sets = s.sets := rfl
@[simp] theorem setList_keyed (s : World) (f r : Nat) (l : List (Option Nat)) : (s.setList f r l).keyed = s.keyed := rfl
@[simp] theorem setList_slots (s : World) (f r : Nat) (l : List (Option Nat)) : (s.setList f r l).slots = s.slots := rfl
@[simp] theorem dropOwners_lists (s : World) (xs : List Nat) : (s.dropOwners xs).lists = s.lists := rfl
@[simp] theorem dropOwners_sets (s : World) (xs : List Nat) : (s.dropOwners xs).sets = s.sets := rfl
@[simp] theorem dropOwners_keyed (s : World) (xs : List Nat) : (s.dropOwners xs).keyed = s.keyed := rfl
@[simp] theorem dropOwners_slots (s : World) (xs : List Nat) : (s.dropOwners xs).slots = s.slots := rfl
@[simp] theorem dropOwners_owner (s : World) (xs : List Nat) :
    (s.dropOwners xs).owner = fun i => if i ∈ xs then none else s.owner i := rfl

theorem contents_setList (s : World) (f r : Nat) (l : List (Option Nat)) (p : Place) :
    contents (s.setList f r l) p = if p = .rack f r then items l else contents s p := by
  cases p with
  | rack f' r' =>
    simp only [contents, setList_lists, Place.rack.injEq]
    split <;> rfl
  | set c => simp [contents]
  | slot c => simp [contents]

theorem contents_setSet (s : World) (c : SetId) (l : List Nat) (p : Place) :
    contents (s.setSet c l) p = if p = .set c then l else contents s p := by
  cases p with
  | rack f' r' => simp [contents]
  | set c' => simp only [contents, setSet_sets, upd_apply, Place.set.injEq]
  | slot c' => simp [contents]

theorem contents_setSlot (s : World) (c : SlotId) (v : Option Nat) (p : Place) :
    contents (s.setSlot c v) p = if p = .slot c then v.toList else contents s p := by
  cases p with
  | rack f' r' => simp [contents]
  | set c' => simp [contents]
  | slot c' =>
    simp only [contents, setSlot_slots, upd_apply, Place.slot.injEq]
    split <;> rfl

@[simp] theorem contents_setOwner (s : World) (i : Nat) (o : Option Place) (p : Place) :
    contents (s.setOwner i o) p = contents s p := by cases p <;> rfl
@[simp] theorem contents_setKeyed (s : World) (c : SetId) (l : List (Nat × Nat)) (p : Place) :
    contents (s.setKeyed c l) p = contents s p := by cases p <;> rfl
@[simp] theorem contents_dropOwners (s : World) (xs : List Nat) (p : Place) :
    contents (s.dropOwners xs) p = contents s p := by cases p <;> rfl

section BackRef
structure BackRef {ι : Type} (mem : ι → List Nat) (back : Nat → Option ι) : Prop where
  iff : ∀ g x, x ∈ mem g ↔ back x = some g
  nodup : ∀ g, (mem g).Nodup

variable {ι : Type} {mem mem' : ι → List Nat} {back back' : Nat → Option ι} {p : ι} {i : Nat} {L : List Nat}

theorem BackRef.unique (h : BackRef mem back) {x : Nat} {q : ι} (hp : x ∈ mem p) (hq : x ∈ mem q) : p = q :=
  Option.some.inj (((h.iff p x).1 hp).symm.trans ((h.iff q x).1 hq))

theorem BackRef.not_mem (h : BackRef mem back) (hi : back i = none) (q : ι) : i ∉ mem q :=
  fun hq => by simpa [hi] using (h.iff q i).1 hq

variable [DecidableEq ι]

/-- Only container `p` changes: its new content and the new back-references to it agree, and the back-references to
the other containers are as they were. -/
theorem BackRef.update (h : BackRef mem back) (hc : ∀ q, mem' q = if q = p then L else mem q) (hL : L.Nodup)
    (hp : ∀ x, x ∈ L ↔ back' x = some p) (ho : ∀ x q, q ≠ p → (back' x = some q ↔ back x = some q)) :
    BackRef mem' back' := by
  refine ⟨fun q x => ?_, fun q => ?_⟩
  · rw [hc]; split
    · next hq => rw [hq, hp]
    · next hq => rw [ho x q hq, h.iff]
  · rw [hc]; split
    · exact hL
    · exact h.nodup q

theorem BackRef.add (h : BackRef mem back) (hi : back i = none)
    (hc : ∀ q, mem' q = if q = p then L else mem q) (hL : IsInsertion i (mem p) L)
    (ho : back' = upd back i (some p)) : BackRef mem' back' := by
  subst ho
  refine h.update hc (hL.nodup_iff.2 ⟨h.not_mem hi p, h.nodup p⟩) (fun x => ?_) (fun x q hq => ?_)
  · rw [upd_apply, hL.mem, h.iff]
    by_cases hx : x = i <;> simp [hx]
  · rw [upd_apply]
    by_cases hx : x = i
    · simp [hx, hi, Ne.symm hq]
    · simp [hx]

/-- `hL`: the new content `L` of `p` is `mem p` without `i` (`IsInsertion` read from right to left). -/
theorem BackRef.remove (h : BackRef mem back)
    (hc : ∀ q, mem' q = if q = p then L else mem q) (hL : IsInsertion i L (mem p))
    (ho : back' = upd back i none) : BackRef mem' back' := by
  subst ho
  obtain ⟨hiL, hLnd⟩ := hL.nodup_iff.1 (h.nodup p)
  have hip : back i = some p := (h.iff p i).1 ((hL.mem i).2 (Or.inl rfl))
  refine h.update hc hLnd (fun x => ?_) (fun x q hq => ?_)
  · rw [upd_apply]
    by_cases hx : x = i
    · simp [hx, hiL]
    · simp [hx, ← h.iff, hL.mem]
  · rw [upd_apply]
    by_cases hx : x = i
    · simp [hx, hip, Ne.symm hq]
    · simp [hx]

theorem BackRef.clear (h : BackRef mem back)
    (hc : ∀ q, mem' q = if q = p then [] else mem q)
    (ho : back' = fun x => if x ∈ mem p then none else back x) : BackRef mem' back' := by
  subst ho
  refine h.update hc List.nodup_nil (fun x => ?_) (fun x q hq => ?_)
  · by_cases hx : x ∈ mem p
    · simp [hx]
    · simpa [hx] using fun ho => hx ((h.iff p x).2 ho)
  · by_cases hx : x ∈ mem p
    · simp [hx, (h.iff p x).1 hx, Ne.symm hq]
    · simp [hx]

end BackRef

/-- The ownership invariant of C07; in particular an item is in at most one place, once. -/
structure OwnInv (s : World) : Prop where
  mem_iff : ∀ p i, i ∈ contents s p ↔ s.owner i = some p
  nodup : ∀ p, (contents s p).Nodup
  noTrail : ∀ f r, NoTrail (s.lists f r)

theorem OwnInv.backRef {s : World} (h : OwnInv s) : BackRef (contents s) s.owner := ⟨h.mem_iff, h.nodup⟩

theorem OwnInv.empty : OwnInv World.empty where
  mem_iff := by intro p i; cases p <;> simp [contents, World.empty]
  nodup := by intro p; cases p <;> simp [contents, World.empty]
  noTrail := by intro f r; exact noTrail_nil

theorem OwnInv.add {s s' : World} {p : Place} {i : Nat} {L : List Nat} (h : OwnInv s) (hi : s.owner i = none)
    (hc : ∀ q, contents s' q = if q = p then L else contents s q) (hL : IsInsertion i (contents s p) L)
    (ho : s'.owner = upd s.owner i (some p)) (hnt : ∀ f r, NoTrail (s'.lists f r)) : OwnInv s' :=
  have b := h.backRef.add hi hc hL ho
  ⟨b.iff, b.nodup, hnt⟩

theorem OwnInv.remove {s s' : World} {p : Place} {i : Nat} {L : List Nat} (h : OwnInv s)
    (hc : ∀ q, contents s' q = if q = p then L else contents s q) (hL : IsInsertion i L (contents s p))
    (ho : s'.owner = upd s.owner i none) (hnt : ∀ f r, NoTrail (s'.lists f r)) : OwnInv s' :=
  have b := h.backRef.remove hc hL ho
  ⟨b.iff, b.nodup, hnt⟩

theorem OwnInv.clear {s s' : World} {p : Place} (h : OwnInv s)
    (hc : ∀ q, contents s' q = if q = p then [] else contents s q)
    (ho : s'.owner = fun x => if x ∈ contents s p then none else s.owner x)
    (hnt : ∀ f r, NoTrail (s'.lists f r)) : OwnInv s' :=
  have b := h.backRef.clear hc ho
  ⟨b.iff, b.nodup, hnt⟩

theorem OwnInv.same {s s' : World} (h : OwnInv s) (hc : ∀ q, contents s' q = contents s q)
    (ho : s'.owner = s.owner) (hnt : ∀ f r, NoTrail (s'.lists f r)) : OwnInv s' :=
  ⟨fun p i => by rw [hc, ho]; exact h.mem_iff p i, fun p => by rw [hc]; exact h.nodup p, hnt⟩

theorem OwnInv.noTrail_of_lists {s s' : World} (h : OwnInv s) (e : s'.lists = s.lists) :
    ∀ f r, NoTrail (s'.lists f r) := fun f r => e ▸ h.noTrail f r

theorem noTrail_setList {s : World} (h : ∀ f r, NoTrail (s.lists f r)) {f r : Nat} {l : List (Option Nat)}
    (hl : NoTrail l) : ∀ f' r', NoTrail ((s.setList f r l).lists f' r') := by
  intro f' r'
  rw [setList_lists]
  split
  · exact hl
  · exact h f' r'

end Eos.Containers
