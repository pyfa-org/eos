import EosGen.ResistTable05
namespace Eos.C02
open Eos.AffectsSpec EosGen.ResistTable

theorem resist_block05_ok : resistBlockOk blockR05 blockR05Cases blockR05Modified blockR05Valid = true := by
  decide +kernel

end Eos.C02
