import EosModel.AffectsSpec
import EosProofs.Lemmas.Tally
import EosProofs.Lemmas.ListFacts
/-! The row checks of `EosModel/AffectsSpec.lean` mean `affectsLocal` / `affectsProjected`: a recorded id list equal
to the ids of the `chosen` items answers the selection for every item, because ids are unique. -/
namespace Eos.AffectsSpec
open Eos.World

theorem eval_selFilter (built : Bool) (a : Item) (m : Modifier) (f d : Nat) (x : Item) (tx : ItemType) :
    (selFilter built a m f d).eval x tx = (x.fit == f &&
      if built && groupNoneRow m then x.kind.modDomain == some d && tx.group.isNone else passesFilter a m d x tx) := by
  unfold selFilter passesFilter groupNoneRow
  by_cases h2 : m.filter = 2
  · simp [h2, Sel.eval]
  by_cases h3 : m.filter = 3
  · cases hg : m.extra <;> cases built <;> simp [h3, Sel.eval, Bool.and_assoc]
  by_cases h4 : m.filter = 4
  · cases hs : skillArg a m <;> simp [h4, Sel.eval, Bool.and_assoc]
  by_cases h5 : m.filter = 5
  · cases hs : skillArg a m <;> simp [h5, Sel.eval, Bool.and_assoc]
  simp [h2, h3, h4, h5, Sel.eval]

/-- Stated of a case because `observedGroupNoneLocal` takes one; only `cfg`, `a`, `m`, `x`, `tx` of it matter. -/
theorem eval_selLocal (built : Bool) (c : LocalCase) :
    (selLocal built c.cfg c.a c.m).eval c.x c.tx =
      if built && groupNoneRow c.m then observedGroupNoneLocal c else specLocal c := by
  unfold selLocal specLocal affectsLocal observedGroupNoneLocal
  by_cases h4 : (c.m.domain == 4) = true
  · rw [if_pos h4, if_pos h4, if_pos h4, ite_self]; rfl
  rw [if_neg h4, if_neg h4, if_neg h4]
  by_cases h1 : (c.m.filter == 1) = true
  · have hg : ¬ (built && groupNoneRow c.m) = true := by simp [groupNoneRow, beq_iff_eq.1 h1]
    rw [if_pos h1, if_pos h1, if_neg hg]
    simp only [apply_ite (Sel.eval · c.x c.tx)]
    congr
    · cases characterOf c.cfg c.a.fit <;> simp [Sel.eval, BEq.comm (a := c.x.id)]
    · cases shipOf c.cfg c.a.fit <;> simp [Sel.eval, BEq.comm (a := c.x.id)]
    · simp only [Sel.eval, List.contains_eq_any_beq, List.any_map]
      exact congrArg _ (funext fun _ => BEq.comm)
  · rw [if_neg h1, if_neg h1]
    split
    · simp only [‹resolveDomain _ _ = none›, ite_self]; rfl
    all_goals
      simp only [‹_ = some _›, eval_selFilter]
      rw [Bool.and_assoc]; exact apply_ite (c.x.fit == c.a.fit && ·) ..

theorem eval_selProjected (built : Bool) (c : ProjCase) :
    (selProjected built c.cfg c.a c.m c.t).eval c.x c.tx =
      if built && groupNoneRow c.m then observedGroupNoneProj c else specProjected c := by
  unfold selProjected specProjected affectsProjected observedGroupNoneProj
  by_cases h1 : c.m.filter = 1
  · have hg : groupNoneRow c.m = false := by simp [groupNoneRow, h1]
    simp [h1, hg, Sel.eval]
  · simp only [h1, beq_iff_eq, if_false]
    cases ht : (c.t.kind == .ship && shipOf c.cfg c.t.fit == some c.t.id)
    · simp [Sel.eval]
    · simp only [if_true, eval_selFilter]; split <;> simp [Bool.and_assoc]

theorem eval_selProjected_spec (cfg : Config) (a : Item) (m : Modifier) (t x : Item) (tx : ItemType) :
    (selProjected false cfg a m t).eval x tx = affectsProjected cfg a m t x tx := by
  simpa [specProjected] using eval_selProjected false ⟨cfg, a, m, t, x, tx, false, false, false⟩

variable {items : List Item} {types : List ItemType}

theorem aligned_spec (h : aligned items types = true) :
    (items.zip types).length = items.length ∧ (items.map (·.id)).Nodup ∧
      ((items.zip types).map (·.1.id)).Nodup ∧ ∀ p ∈ items.zip types, p.1.typeId = p.2.id := by
  simp only [aligned, Bool.and_eq_true, beq_iff_eq, List.all_eq_true] at h
  obtain ⟨⟨hl, hid⟩, hty⟩ := h
  have hnd : (items.map (·.id)).Nodup := hid ▸ List.nodup_range' 1
  refine ⟨by simp [hl], hnd, ?_, hty⟩
  have := congrArg (List.map (·.id)) (List.map_fst_zip (Nat.le_of_eq hl.symm))
  rw [List.map_map] at this
  exact this ▸ hnd

theorem find?_chosen (hnd : ((items.zip types).map (·.1.id)).Nodup) (sel : Item → ItemType → Bool)
    {p : Item × ItemType} (hp : p ∈ items.zip types) :
    (chosen sel items types).find? (·.1.id == p.1.id) = if sel p.1 p.2 then some p else none := by
  split
  · rename_i hs
    exact find?_key_eq_some (l := chosen sel items types) (·.1.id) ((List.filter_sublist.map _).nodup hnd)
      (List.mem_filter.2 ⟨hp, hs⟩)
  · rename_i hs
    refine List.find?_eq_none.2 fun q hq hk => hs ?_
    rw [← eq_of_nodup_map _ hnd (List.mem_filter.1 hq).1 hp (beq_iff_eq.1 hk)]
    exact (List.mem_filter.1 hq).2

theorem contains_chosen (hnd : ((items.zip types).map (·.1.id)).Nodup) (sel : Item → ItemType → Bool)
    {p : Item × ItemType} (hp : p ∈ items.zip types) :
    ((chosen sel items types).map (·.1.id)).contains p.1.id = sel p.1 p.2 := by
  rw [Bool.eq_iff_iff, List.contains_iff_mem, List.mem_map]
  constructor
  · rintro ⟨q, hq, hk⟩
    exact eq_of_nodup_map _ hnd (List.mem_filter.1 hq).1 hp hk ▸ (List.mem_filter.1 hq).2
  · exact fun h => ⟨p, List.mem_filter.2 ⟨hp, h⟩, rfl⟩

theorem Sel.pick_eq (s : Sel) : s.pick items types = chosen s.eval items types := by
  cases s
  case never => exact (List.filter_eq_nil_iff.2 fun _ _ => Bool.false_ne_true).symm
  case group | skill | owner => exact List.filter_filter.trans (List.filter_congr fun _ _ => Bool.and_comm ..)
  all_goals rfl

theorem pickAny_eq : (sels : List Sel) →
    pickAny sels items types = chosen (fun x tx => sels.any (·.eval x tx)) items types
  | [] => (List.filter_eq_nil_iff.2 fun _ _ => Bool.false_ne_true).symm
  | [s] => s.pick_eq.trans (List.filter_congr fun _ _ => (Bool.or_false _).symm)
  | _ :: _ :: _ => rfl

/-- `ty` the recorded type is the item's, `gn` = `groupNoneRow`, `spec` the specification's answer, `obs` what the
code is known to do on a `groupNoneRow`, `scr` / `inc` the two observations. -/
structure Agrees (ty : Prop) (gn valid spec obs scr inc : Bool) : Prop where
  typed : ty
  rejected : gn = true → valid = false
  inc : inc = spec
  scr : scr = if gn then obs else spec

theorem Agrees.spec_eq_scr {ty : Prop} {gn valid spec obs scr inc : Bool} (h : Agrees ty gn valid spec obs scr inc)
    (hv : valid = true) : spec = scr := by
  rw [h.scr, if_neg fun hg => by simp [h.rejected hg] at hv]

def LocalGood (c : LocalCase) : Prop :=
  Agrees (c.x.typeId = c.tx.id) (groupNoneRow c.m) c.valid (specLocal c) (observedGroupNoneLocal c) c.modified
    c.modifiedInc

def ProjGood (c : ProjCase) : Prop :=
  Agrees (c.x.typeId = c.tx.id) (groupNoneRow c.m) c.valid (specProjected c) (observedGroupNoneProj c) c.modified
    c.modifiedInc

/-- A recorded list equals the ids of the chosen items and ids are unique, so "the id is in the list" answers the
selection (`contains_chosen`), and the number of cases counted by `f` is the length of the list.  `hev` is the closed
form of the checker's selection (`eval_selLocal`, `eval_selProjected`). -/
theorem observedOk_spec {κ : Type} {P : κ → Prop} {f g : κ → Bool} {mk : Item × ItemType → Bool → Bool → κ}
    {gn valid : Bool} {sel : Bool → Sel} {spec obs : Item × ItemType → Bool} {scr inc : List Nat}
    (h : observedOk items types gn valid sel scr inc = true)
    (hev : ∀ built p, (sel built).eval p.1 p.2 = if built && gn then obs p else spec p)
    (hP : ∀ p s i, Agrees (p.1.typeId = p.2.id) gn valid (spec p) (obs p) s i → P (mk p s i))
    (hf : ∀ p s i, f (mk p s i) = s) (hg : ∀ p s i, g (mk p s i) = valid) :
    Tally P f g ((items.zip types).map fun p => mk p (scr.contains p.1.id) (inc.contains p.1.id))
      items.length scr.length (if valid then items.length else 0) := by
  simp only [observedOk, Bool.and_eq_true, beq_iff_eq] at h
  obtain ⟨⟨hal, rfl⟩, hs⟩ := h
  obtain ⟨hrej, rfl⟩ : (gn = true → valid = false) ∧ picked (sel gn) items types = scr := by
    cases gn <;> simpa using hs
  obtain ⟨hlen, -, hnd, hty⟩ := aligned_spec hal
  rw [← hlen, picked, picked, Sel.pick_eq, Sel.pick_eq, List.length_map]
  refine Tally.map _ valid (fun p hp => ?_) (fun p hp => ?_) fun _ _ => hg ..
  · rw [contains_chosen hnd _ hp, contains_chosen hnd _ hp]
    exact hP p _ _ ⟨hty p hp, hrej, by simpa using hev false p, by simpa using hev gn p⟩
  · rw [hf, contains_chosen hnd _ hp]

theorem LocalRow.ok_spec {r : LocalRow} (h : r.ok = true) :
    Tally LocalGood (·.modified) (·.valid) r.cases r.tally.1 r.tally.2.1 r.tally.2.2 := by
  obtain ⟨w, m, valid, scr, inc⟩ := r
  cases ha : item? w.cfg w.affector with
  | none => simp [LocalRow.ok, ha] at h
  | some a =>
    simp only [LocalRow.ok, ha] at h
    simp only [LocalRow.cases, ha, LocalRow.tally]
    exact observedOk_spec (mk := fun p s i => (⟨w.cfg, a, m, p.1, p.2, valid, s, i⟩ : LocalCase)) h
      (fun built p => eval_selLocal built ⟨w.cfg, a, m, p.1, p.2, valid, false, false⟩) (fun _ _ _ h => h)
      (fun _ _ _ => rfl) (fun _ _ _ => rfl)

theorem ProjRow.ok_spec {r : ProjRow} (h : r.ok = true) :
    Tally ProjGood (·.modified) (·.valid) r.cases r.tally.1 r.tally.2.1 r.tally.2.2 := by
  obtain ⟨w, target, m, valid, scr, inc⟩ := r
  cases ha : item? w.cfg w.affector with
  | none => simp [ProjRow.ok, ha] at h
  | some a =>
    cases ht : item? w.cfg target with
    | none => simp [ProjRow.ok, ha, ht] at h
    | some t =>
      simp only [ProjRow.ok, ha, ht] at h
      simp only [ProjRow.cases, ha, ht, ProjRow.tally]
      exact observedOk_spec (mk := fun p s i => (⟨w.cfg, a, m, t, p.1, p.2, valid, s, i⟩ : ProjCase)) h
        (fun built p => eval_selProjected built ⟨w.cfg, a, m, t, p.1, p.2, valid, false, false⟩) (fun _ _ _ h => h)
        (fun _ _ _ => rfl) (fun _ _ _ => rfl)

theorem blockOkBy_spec {ρ κ : Type} {ok : ρ → Bool} {tally : ρ → Nat × Nat × Nat} {casesOf : ρ → List κ}
    {P : κ → Prop} {f g : κ → Bool} {rows : List ρ} {n k v : Nat} (h : blockOkBy ok tally rows n k v = true)
    (hrow : ∀ r, ok r = true → Tally P f g (casesOf r) (tally r).1 (tally r).2.1 (tally r).2.2) :
    Tally P f g (rows.flatMap casesOf) n k v := by
  simp only [blockOkBy, Bool.and_eq_true, List.all_eq_true, beq_iff_eq] at h
  obtain ⟨hr, hs⟩ := h
  induction rows generalizing n k v with
  | nil => cases hs; exact .nil _
  | cons r rows ih =>
    cases hs
    exact (hrow r (hr r List.mem_cons_self)).cons (ih (fun r' h' => hr r' (List.mem_cons_of_mem _ h')) rfl)

end Eos.AffectsSpec
