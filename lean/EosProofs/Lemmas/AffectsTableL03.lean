import EosGen.AffectsTableL03
namespace Eos.C02
open Eos.AffectsSpec EosGen.AffectsTable

theorem affects_blockL03_ok : localBlockOk blockL03 blockL03Cases blockL03Modified blockL03Valid = true := by decide +kernel

end Eos.C02
