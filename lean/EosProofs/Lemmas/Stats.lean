import EosModel.Stats
import EosGen.StatFormulas
import EosProofs.Lemmas.Toggle
import Mathlib.Tactic.Ring
import Mathlib.Tactic.Linarith
/-! C04: the notions its statements are made of (`Valid`, `genSum`, `Dead`, `truth`) and the lemmas behind the laws. -/
namespace Eos.C04
open Eos.Stats Eos.Cycle Eos.Toggle
-- `G.x` is `EosGen.StatFormulas.x` (an alias: proofs unfold by the long name)
namespace G
export EosGen.StatFormulas (resist resistDefault tankEff tankDealt tankReceived layerEhp layerWorstEhp worstDivisor
  statScale combineInit combineStep combineResist infoAvg infoTime infoQty seqAvg dpsMult rps durationS inactiveS
  reloadS cycleTable)
end G

/-- The ranges the property quantifies over: damage profile entries non-negative, resists within [0, 1] (what the
    model's `mkStats` / `mkResist` accept; anything else is a `ValueError` there). -/
structure Valid (p r : D4) : Prop where
  p_em : 0 ≤ p.em
  p_th : 0 ≤ p.th
  p_ki : 0 ≤ p.ki
  p_ex : 0 ≤ p.ex
  r_em : 0 ≤ r.em ∧ r.em ≤ 1
  r_th : 0 ≤ r.th ∧ r.th ≤ 1
  r_ki : 0 ≤ r.ki ∧ r.ki ≤ 1
  r_ex : 0 ≤ r.ex ∧ r.ex ≤ 1

theorem minResist_le (r : D4) : minResist r ≤ r.em ∧ minResist r ≤ r.th ∧ minResist r ≤ r.ki ∧ minResist r ≤ r.ex := by
  unfold minResist
  refine ⟨?_, ?_, ?_, ?_⟩
  · exact le_trans (min_le_left _ _) (le_trans (min_le_left _ _) (min_le_left _ _))
  · exact le_trans (min_le_left _ _) (le_trans (min_le_left _ _) (min_le_right _ _))
  · exact le_trans (min_le_left _ _) (min_le_right _ _)
  · exact min_le_right _ _

theorem received_eq (p r : D4) :
    received p r = p.em * (1 - r.em) + p.th * (1 - r.th) + p.ki * (1 - r.ki) + p.ex * (1 - r.ex) := by
  simp only [received, dealt, absorbed]; ring

theorem mul_one_sub_eq_zero {a r : ℚ} : a * (1 - r) = 0 ↔ a = 0 ∨ r = 1 := by
  rw [mul_eq_zero, sub_eq_zero, eq_comm (a := (1 : ℚ))]

theorem received_le_worst (p r : D4) (v : Valid p r) : received p r ≤ dealt p * (1 - minResist r) := by
  obtain ⟨m1, m2, m3, m4⟩ := minResist_le r
  have a1 := mul_le_mul_of_nonneg_left (sub_le_sub_left m1 1) v.p_em
  have a2 := mul_le_mul_of_nonneg_left (sub_le_sub_left m2 1) v.p_th
  have a3 := mul_le_mul_of_nonneg_left (sub_le_sub_left m3 1) v.p_ki
  have a4 := mul_le_mul_of_nonneg_left (sub_le_sub_left m4 1) v.p_ex
  rw [received_eq, dealt, add_mul, add_mul, add_mul]
  exact add_le_add (add_le_add (add_le_add a1 a2) a3) a4

/-- The multipliers behind `hp ≤ worst-case EHP ≤ EHP`. -/
theorem mult_chain (p r : D4) (v : Valid p r) (hr : 0 < received p r) :
    0 < 1 - minResist r ∧ 1 ≤ 1 / (1 - minResist r) ∧ 1 / (1 - minResist r) ≤ dealt p / received p r := by
  have key := received_le_worst p r v
  have hd : 0 ≤ dealt p := add_nonneg (add_nonneg (add_nonneg v.p_em v.p_th) v.p_ki) v.p_ex
  have h0 : 0 ≤ minResist r := le_min (le_min (le_min v.r_em.1 v.r_th.1) v.r_ki.1) v.r_ex.1
  have hm : 0 < 1 - minResist r := pos_of_mul_pos_right (hr.trans_le key) hd
  refine ⟨hm, ?_, ?_⟩
  · rw [le_div_iff₀ hm, one_mul]; exact sub_le_self 1 h0
  · rw [div_le_div_iff₀ hm hr, one_mul]; exact key

def tup (d : D4) : ℚ × ℚ × ℚ × ℚ := (d.em, d.th, d.ki, d.ex)

/-- `DmgStats._combine`'s loop, run with the generated initial value and loop body. -/
def genSum (l : List D4) : ℚ × ℚ × ℚ × ℚ :=
  l.foldl (fun acc c => G.combineStep acc.1 acc.2.1 acc.2.2.1 acc.2.2.2 c.em c.th c.ki c.ex) G.combineInit

theorem sum_cons (x : D4) (t : List D4) : D4.sum (x :: t) = x.add (D4.sum t) := by
  rw [D4.sum, D4.sum, ← List.foldl_hom x.add (g₂ := D4.add) fun a b => by simp only [D4.add, add_assoc]]
  simp only [List.foldl_cons, D4.add, D4.zero, add_zero, zero_add]

theorem sum_partition {α} (l : List α) (v : α → D4) (q : α → Bool) :
    (D4.sum ((l.filter q).map v)).add (D4.sum ((l.filter (fun x => !q x)).map v)) = D4.sum (l.map v) := by
  induction l with
  | nil => simp [D4.sum, D4.add, D4.zero]
  | cons x t ih =>
    cases hq : q x <;> simp only [List.filter_cons, hq, List.map_cons, sum_cons, Bool.not_false, Bool.not_true,
      if_true, if_false, Bool.false_eq_true] <;> rw [← ih] <;> simp only [D4.add] <;> congr 1 <;> ring

theorem mapM_ok {α β} (l : List α) (g : α → R β) (v : α → β) (H : ∀ x ∈ l, g x = .ok (v x)) :
    l.mapM g = .ok (l.map v) := by
  induction l with
  | nil => rfl
  | cons x t ih =>
    rw [List.mapM_cons, H x (List.mem_cons_self), ih (fun y hy => H y (List.mem_cons_of_mem _ hy))]
    rfl

theorem mkStats_ok {v w : D4} (h : mkStats v none = .ok w) : w = v := by
  unfold mkStats at h; simp only at h; split at h <;> simp_all

theorem agg_additive (items : List Item) (g : Item → R D4) (v : Item → D4) (H : ∀ it ∈ items, g it = .ok (v it))
    (f q : Item → Bool) (w w1 w2 : D4)
    (h : (do combine (← (items.filter f).mapM g) none) = .ok w)
    (h1 : (do combine (← (items.filter (fun it => f it && q it)).mapM g) none) = .ok w1)
    (h2 : (do combine (← (items.filter (fun it => f it && !q it)).mapM g) none) = .ok w2) :
    w1.add w2 = w := by
  have sub : ∀ p : Item → Bool, ∀ it ∈ items.filter p, g it = .ok (v it) := fun p it hm => H it (List.mem_filter.1 hm).1
  rw [mapM_ok _ g v (sub _)] at h h1 h2
  simp only [combine, bind, Except.bind] at h h1 h2
  rw [mkStats_ok h, mkStats_ok h1, mkStats_ok h2]
  have := sum_partition (items.filter f) v q
  simp only [List.filter_filter] at this
  have e1 : (items.filter fun a => q a && f a) = items.filter fun it => f it && q it :=
    List.filter_congr fun _ _ => Bool.and_comm _ _
  have e2 : (items.filter fun a => (!q a) && f a) = items.filter fun it => f it && !q it :=
    List.filter_congr fun _ _ => Bool.and_comm _ _
  rw [e1, e2] at this
  exact this

def Dead : Option ERat → Prop
  | none => True
  | some (.fin c) => c ≤ 0
  | some .inf => False

/-- Inactive time of the last cycle before a reload. -/
def tailTime (f : ℚ) (rt : Option ℚ) (reload : Bool) : ℚ :=
  match rt with
  | none => 0
  | some r => if !reload || f ≥ r then f else r

/-- The average cycle time in closed form: `c` cycles of which the first `c - 1` end with the forced inactivity
    and the last with `tailTime`. Every branch of `get_cycle_parameters` is this one formula. -/
theorem avgTime_params {c : ℚ} (hc : 0 < c) (d i rt : Option ℚ) (reload : Bool) :
    ∃ cy, params (some (.fin c)) d i rt reload = some cy ∧
      avgTime cy = .ok (((orZero d + orZero i) * (c - 1) + (orZero d + tailTime (orZero i) rt reload)) / c) := by
  have hq : c ≠ 0 := ne_of_gt hc
  have same : ∀ x : ℚ, (x * (c - 1) + x) / c = x := fun x => by rw [div_eq_iff hq]; ring
  rw [← Option.map_eq_some_iff]
  rcases rt with _ | r <;> simp only [params, tailTime, not_le.2 hc, if_false] <;> split_ifs with h1 h2
  · obtain rfl := sub_eq_zero.1 h1
    simp [avgTime]
  · simp [avgTime, h2, same]
  · simp [avgTime, seqTime, seqQty, hq]
  · simp [avgTime, same]
  · obtain rfl := sub_eq_zero.1 h2
    simp [avgTime]
  · simp [avgTime, seqTime, seqQty, hq]

theorem tailTime_nonneg {f : ℚ} {rt : Option ℚ} (hf : 0 ≤ f) (hr : ∀ r, rt = some r → 0 ≤ r) (reload : Bool) :
    0 ≤ tailTime f rt reload := by
  rcases rt with _ | r
  · exact le_refl _
  · simp only [tailTime]; split_ifs
    · exact hf
    · exact hr r rfl

theorem tailTime_mono (f : ℚ) (rt : Option ℚ) : tailTime f rt false ≤ tailTime f rt true := by
  rcases rt with _ | r
  · exact le_refl _
  · simp only [tailTime, Bool.not_false, Bool.true_or, if_true, Bool.not_true, Bool.false_or, decide_eq_true_eq]
    split_ifs with h
    · exact le_refl _
    · exact le_of_lt (lt_of_not_ge h)

/-- What a register ought to hold in micro-configuration `cur`: items whose watched point is on and which
    satisfied the guard when it went on. -/
def truth (r : RegSpec) (cur : Nat → Option Facts) : Nat → Option Unit :=
  fun i => (cur i).bind fun f => if r.guard f then some () else none

theorem truth_upd (r : RegSpec) (cur : Nat → Option Facts) (i : Nat) (v : Option Facts) :
    truth r (upd cur i v) = upd (truth r cur) i (v.bind fun f => if r.guard f then some () else none) :=
  funext fun j => apply_ite (Option.bind · _) (j = i) v (cur j)

/-- What a message does to a register's truth, and that it is well formed when nothing is switched on twice. -/
theorem ev_spec (r : RegSpec) (cur : Nat → Option Facts) (m : Msg) :
    applyCur (truth r cur) (r.ev m) = truth r (microStep r.point cur m) ∧
    ((m.points.contains r.point = true → m.on = true → cur m.item = none) → (r.ev m).wf (truth r cur)) := by
  unfold RegSpec.ev microStep
  split
  next hp =>
    rw [truth_upd]
    cases m.on
    · exact ⟨rfl, fun _ => trivial⟩
    · exact ⟨rfl, fun h => congrArg (Option.bind · _) (h hp rfl)⟩
  next => exact ⟨rfl, fun _ => trivial⟩

theorem wf_ev (r : RegSpec) : ∀ (ms : List Msg) (cur : Nat → Option Facts),
    Alternates r.point cur ms → WF (truth r cur) (ms.map r.ev)
  | [], _, _ => trivial
  | m :: t, cur, ha => ⟨(ev_spec r cur m).2 ha.1, (ev_spec r cur m).1 ▸ wf_ev r t _ ha.2⟩

theorem register_inv (r : RegSpec) (ms : List Msg) (cur : Nat → Option Facts) (reg : Reg Unit)
    (hi : Inv (truth r cur) reg) (ha : Alternates r.point cur ms) :
    Inv (truth r (ms.foldl (microStep r.point) cur)) (run reg (ms.map r.ev)) :=
  -- the truth after the events is the truth of the folded configuration: `truth r` commutes with the two steps
  List.foldl_map.trans (List.foldl_hom (truth r) fun c m => (ev_spec r c m).1) ▸
    toggle_register _ hi (wf_ev r ms cur ha)

end Eos.C04
