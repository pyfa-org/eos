import EosProofs.Lemmas.MicroGraph
import EosProofs.Lemmas.ValuePipe
/-! A fleet boost is not derivable from the configuration alone (its recorded targets are the ships of the booster's
fleet, its warfare-buff modifiers `Dyn.bspecs` are built from attribute *values*), hence settledness is relative to a
reader `R` (`BuffSettledFor`).  The message level lists the local specs of all running effects of an item before the
projected ones, hence `Perm` between the two gatherings.  `specsW`, `boostSpecsW`, `bmsW`/`bmsOf`, `immW`,
`stepS`/`specOut` are the normal form of `World.gather` (`Lemmas/GatherNF.lean`); `IsErrOf`, `valueWith` are in
`Lemmas/CalcWorld.lean`.

`hnp`, the hypothesis that a fleet-boost effect is not also a projectable (category 2) effect: the message level keeps,
per effect, one record of targets and one list of projected modifiers for both roles (`projSpecs`), while
`World.gather` pairs `projectionTargets` with the effect's own target-domain modifiers for the first role and
`boostTargets` with these plus the warfare-buff modifiers for the second; no record settles an effect with both. -/
namespace Eos.Micro
open Eos.World Eos.Calc

variable {u : Universe} {cfg : Config} {R : Reader} {d : Dyn} {x : Item} {tx : ItemType} {attr : Int}

theorem filter_ids {l : List Effect} (p : Effect → Bool)
    (hl : ∀ e ∈ l, ∀ e' ∈ l, e.id = e'.id → e = e') :
    l.filter (fun e => ((l.filter p).map (·.id)).contains e.id) = l.filter p := by
  refine List.filter_congr fun e he => Bool.eq_iff_iff.2 ?_
  rw [List.contains_iff_mem, List.mem_map]
  exact ⟨fun ⟨e', he', hid⟩ => hl e' (List.mem_filter.1 he').1 e he hid ▸ (List.mem_filter.1 he').2,
    fun hp => ⟨e, List.mem_filter.2 ⟨he, hp⟩, rfl⟩⟩

theorem stepS_specOut (rd : Reader) (x : Item) (imm : Item → Bool) (acc : List Calc.Mod) (s : Spec) :
    stepS (specOut cfg rd x imm) acc s =
      match rd s.a s.m.srcAttr with
      | .absent => .ok acc
      | .ok v => (match resistD cfg rd s.e x with
        | .ok r => .ok (acc ++ [{ op := s.m.op, value := v, resist := r, agg := s.m.agg, aggKey := s.m.aggKey,
                                  immune := imm s.a }])
        | w => .error w)
      | w => .error w := by
  unfold stepS specOut
  rw [resistD_eq_resistOf]
  cases rd s.a s.m.srcAttr <;> try rfl
  cases resistOf cfg rd s.e x <;> rfl

theorem gatherD_eq_fold (d : Dyn) (immune : List Int) (rd : Reader) (x : Item) (tx : ItemType) (attr : Int) :
    gatherD u cfg d immune rd x tx attr =
      (specsOn u cfg d x tx attr).foldlM (stepS (specOut cfg rd x (immuneOf u d immune))) [] := by
  unfold gatherD
  exact foldlM_congr_mem _ (fun acc s _ => (stepS_specOut rd x _ acc s).symm) _

theorem gatherD_isErrOf {immune : List Int} {rd : Reader} {w : Val}
    (h : gatherD u cfg d immune rd x tx attr = .error w) : IsErrOf rd w := by
  obtain ⟨_, _, hs⟩ := foldlM_stepS_error (gatherD_eq_fold d immune rd x tx attr ▸ h)
  exact specOut_isErrOf hs

/-- When the warfare-buff reads of the carriers of running boosts succeed, the check atoms of `gather` are skips:
`gather` is one fold over specs. -/
theorem gather_eq_specs {immune : List Int} {rd : Reader} {x : Item} {tx : ItemType} {attr : Int}
    (hB : ∀ a ∈ cfg.items, ∀ e ∈ runningEffects u cfg a, e.isBuff = true →
      bmsW u rd attr a = .ok (bmsOf u rd attr a)) :
    gather u cfg immune rd x tx attr =
      (cfg.items.flatMap fun a => (runningEffects u cfg a).flatMap fun e =>
        specsW cfg x tx attr a e ++
          (if e.isBuff then boostSpecsW cfg x tx attr (bmsOf u rd attr a) a e else [])).foldlM
        (stepS (specOut cfg rd x (immW u cfg immune))) [] := by
  rw [gather_eq_atoms]
  unfold gatherAtoms
  rw [foldlM_flatMap, foldlM_flatMap]
  refine foldlM_congr_mem _ (fun acc a ha => ?_) _
  rw [foldlM_flatMap, foldlM_flatMap]
  refine foldlM_congr_mem _ (fun acc e he => ?_) _
  unfold effAtoms
  cases hbf : e.isBuff with
  | false => simp only [Bool.false_eq_true, if_false, List.append_nil, List.foldlM_map]; rfl
  | true =>
    have hs : ∀ acc, stepS (atomOut u cfg immune rd x attr) acc (.buffs a) = .ok acc := fun acc => by
      simp only [stepS, atomOut, hB a ha e he hbf]
    simp only [if_true, List.foldlM_append, List.foldlM_map, List.foldlM_cons, hs]
    rfl

theorem filter_local (a : Item) (e : Effect) :
    ((e.mods.filter (·.domain != 4)).map fun m => (⟨a, e, m, none⟩ : Spec)).filter
        (fun s => s.m.tgtAttr == attr && selects cfg s x tx) =
      (e.mods.filter fun m => m.tgtAttr == attr && affectsLocal cfg a m x tx).map fun m => ⟨a, e, m, none⟩ := by
  rw [List.filter_map, List.filter_filter]
  congr 1
  refine List.filter_congr fun m _ => ?_
  simp only [Function.comp, selects]
  cases hd : m.domain == 4 with
  | false => simp [bne, hd]
  | true => simp [affectsLocal, hd]

theorem valToOption_err {rd : Reader} {w : Val} (h : IsErrOf rd w) : valToOption w = none := by
  rcases h.1 with rfl | rfl <;> rfl

theorem except_ok_bind {ε α β : Type} (a : α) (f : α → Except ε β) : ((Except.ok a : Except ε α) >>= f) = f a := rfl

theorem boostTargets_item {f : Nat} {t : Item} (h : t ∈ boostTargets cfg f) : item? cfg t.id = some t := by
  unfold boostTargets at h
  obtain ⟨g, _, hg⟩ := List.mem_filterMap.1 h
  split at hg
  · obtain ⟨i, _, hi⟩ := Option.bind_eq_some_iff.1 hg
    exact item?_id hi ▸ hi
  · cases hg

theorem projectionTargets_item {a : Item} {e : Effect} {t : Item} (h : t ∈ projectionTargets cfg a e) :
    item? cfg t.id = some t := by
  unfold projectionTargets at h
  split at h
  · split at h
    · exact item?_id (Option.mem_toList.1 h) ▸ Option.mem_toList.1 h
    · cases h
  · cases h

/-- Recorded ids of items that their ids find are found again. -/
theorem filterMap_item?_ids {l : List Item} (h : ∀ t ∈ l, item? cfg t.id = some t) :
    (l.map (·.id)).filterMap (item? cfg) = l := by
  rw [List.filterMap_map, List.filterMap_congr (g := some) (fun t ht => by simpa using h t ht), List.filterMap_some]

/-- Up to order: the registers keep the order of the service's messages, the specification that of templates and fits.
First disjunct of the target clause: the service publishes `EffectApplied` per buff id attribute that has templates
(`_handle_effects_started`), so a boost without any projected modifier records no targets, and none matter. -/
def BuffPayloadFor (u : Universe) (cfg : Config) (R : Reader) (d : Dyn) : Prop :=
  ∀ a ∈ cfg.items, ∀ e ∈ runningEffects u cfg a, e.isBuff = true →
    (∃ bms, buffModifiers u R a = .ok bms ∧ (d.bspecs a.id e.id).Perm bms) ∧
    (projMods u d a e = [] ∨ (d.tgts a.id e.id).Perm ((boostTargets cfg a.fit).map (·.id)))

structure BuffSettledFor (u : Universe) (cfg : Config) (R : Reader) (d : Dyn) : Prop where
  loaded : d.loaded = (derivedDyn u cfg).loaded
  on : d.on = (derivedDyn u cfg).on
  tgts : ∀ a ∈ cfg.items, ∀ e ∈ runningEffects u cfg a, e.isBuff = false →
    d.tgts a.id e.id = (derivedDyn u cfg).tgts a.id e.id
  payload : BuffPayloadFor u cfg R d

theorem buffSettledFor_derived (hb : ∀ e ∈ u.effects, e.isBuff = false) (R : Reader) :
    BuffSettledFor u cfg R (derivedDyn u cfg) where
  loaded := rfl
  on := rfl
  tgts := fun _ _ _ _ _ => rfl
  payload := fun _ _ e he hbf => by rw [hb e (runningEffects_mem he)] at hbf; cases hbf

theorem typeOf?_settled (hc : UniqueIds cfg) (hd : BuffSettledFor u cfg R d) {a : Item} (ha : a ∈ cfg.items) :
    typeOf? u d a = itemType? u cfg a := by
  simp only [typeOf?, hd.loaded, derivedDyn, item?_of_mem hc ha, loaded, itemType?]
  split <;> simp_all

theorem running_settled (hc : UniqueIds cfg) (hd : BuffSettledFor u cfg R d) {a : Item} (ha : a ∈ cfg.items) :
    running u d a = runningEffects u cfg a := by
  unfold running typeEffects
  rw [typeOf?_settled hc hd ha]
  simp only [hd.on, derivedDyn, item?_of_mem hc ha, runningIds]
  unfold runningEffects
  cases itemType? u cfg a with
  | none => rfl
  | some ty =>
    refine filter_ids _ fun e he e' he' hid => ?_
    obtain ⟨i, _, hi⟩ := List.mem_filterMap.1 he
    obtain ⟨i', _, hi'⟩ := List.mem_filterMap.1 he'
    have : effect? u i = effect? u i' := by rw [← effect?_id hi, ← effect?_id hi', hid]
    rw [hi, hi'] at this; exact Option.some.inj this

theorem immuneOf_settled (hc : UniqueIds cfg) (hd : BuffSettledFor u cfg R d) (immune : List Int) {a : Item}
    (ha : a ∈ cfg.items) : immuneOf u d immune a = immW u cfg immune a := by
  unfold immuneOf immW; rw [typeOf?_settled hc hd ha]; rfl

theorem targetsOf_settled (hc : UniqueIds cfg) (hd : BuffSettledFor u cfg R d) {a : Item} (ha : a ∈ cfg.items)
    {e : Effect} (he : e ∈ runningEffects u cfg a) (hbf : e.isBuff = false) :
    targetsOf cfg d a e = projectionTargets cfg a e := by
  simp only [targetsOf, hd.tgts a ha e he hbf, derivedDyn, item?_of_mem hc ha,
    (running_mem ((running_settled hc hd ha).symm ▸ he)).2]
  exact filterMap_item?_ids fun _ => projectionTargets_item

theorem targetsOf_settled_buff {a : Item} {e : Effect}
    (hp : (d.tgts a.id e.id).Perm ((boostTargets cfg a.fit).map (·.id))) :
    (targetsOf cfg d a e).Perm (boostTargets cfg a.fit) :=
  (hp.filterMap (item? cfg)).trans (List.Perm.of_eq (filterMap_item?_ids fun _ => boostTargets_item))

theorem projMods_filter_perm {a : Item} {e : Effect} (hbf : e.isBuff = true) {bms B : List Modifier}
    (hp : (d.bspecs a.id e.id).Perm bms) (hok : ∀ m ∈ bms, bspecOK u m = true)
    (hB : B.filter (·.tgtAttr == attr) = bms.filter (·.tgtAttr == attr)) (t : Item) :
    ((projMods u d a e).filter fun m =>
        m.tgtAttr == attr && (m.domain == 4 && affectsProjected cfg a m t x tx)).Perm
      ((B ++ e.mods.filter (·.domain == 4)).filter fun m =>
        m.tgtAttr == attr && affectsProjected cfg a m t x tx) := by
  rw [List.filter_congr (q := fun m => m.tgtAttr == attr && affectsProjected cfg a m t x tx) fun m hm => by
    rw [projMods_domain hm]; rfl]
  have split : ∀ l : List Modifier, l.filter (fun m => m.tgtAttr == attr && affectsProjected cfg a m t x tx) =
      (l.filter (·.tgtAttr == attr)).filter (fun m => affectsProjected cfg a m t x tx) := fun l => by
    rw [List.filter_filter]; exact List.filter_congr fun m _ => Bool.and_comm _ _
  unfold projMods
  rw [if_pos hbf, List.filter_append, List.filter_append]
  refine List.perm_append_comm.trans (List.Perm.append_right _ ?_)
  rw [split B, hB, ← split bms]
  exact ((hp.filter _).trans (List.Perm.of_eq (List.filter_eq_self.2 hok))).filter _

/-- The projected specs of one effect that act on `(x, attr)`, message level (recorded targets `T`, projected
modifiers `M`) against specification (`T'`, `M'`): the filter goes through to the modifier list; the targets matter up
to order, and not at all when there is no modifier. -/
theorem projSpecs_filter_perm {a : Item} {e : Effect} {T T' : List Item} {M M' : List Modifier}
    {q : Item → Modifier → Bool} (hT : M = [] ∨ T.Perm T')
    (hM : ∀ t, (M.filter fun m =>
      m.tgtAttr == attr && (m.domain == 4 && affectsProjected cfg a m t x tx)).Perm (M'.filter (q t))) :
    ((T.flatMap fun t => M.map fun m => (⟨a, e, m, some t⟩ : Spec)).filter
        fun s => s.m.tgtAttr == attr && selects cfg s x tx).Perm
      (T'.flatMap fun t => (M'.filter (q t)).map fun m => ⟨a, e, m, some t⟩) := by
  rw [List.filter_flatMap]
  have hin : ∀ t, ((M.map fun m => (⟨a, e, m, some t⟩ : Spec)).filter
      fun s => s.m.tgtAttr == attr && selects cfg s x tx).Perm
        ((M'.filter (q t)).map fun m => ⟨a, e, m, some t⟩) :=
    fun t => by rw [List.filter_map]; exact (hM t).map _
  rcases hT with rfl | hT
  · exact .of_eq ((List.flatMap_eq_nil_iff.2 fun _ _ => rfl).trans
      (List.flatMap_eq_nil_iff.2 fun t _ => (hin t).nil_eq.symm).symm)
  · exact hT.flatMap fun t _ => hin t

/-- Per carrier item: the settled specs that act on `(x, attr)` are the specification's.  The local part is equal
(`hl`); the projected part is permuted effect by effect (`hp`: `projSpecs_filter_perm`, for an ordinary effect with
equal targets and modifiers, for a boost with the payload's); `List.flatMap_append_perm` then turns "all local specs,
then all projected ones" into the specification's "effect by effect". -/
theorem specs_item_perm_buff (hc : UniqueIds cfg) (hnp : ∀ e ∈ u.effects, e.isBuff = true → e.category ≠ 2)
    (hd : BuffSettledFor u cfg R d) {a : Item} (ha : a ∈ cfg.items) :
    ((localSpecs u d a ++ projSpecs u cfg d a).filter fun s => s.m.tgtAttr == attr && selects cfg s x tx).Perm
      ((runningEffects u cfg a).flatMap fun e =>
        specsW cfg x tx attr a e ++
          (if e.isBuff then boostSpecsW cfg x tx attr (bmsOf u R attr a) a e else [])) := by
  have hrun := running_settled hc hd ha
  have hl : (localSpecs u d a).filter (fun s => s.m.tgtAttr == attr && selects cfg s x tx) =
      (runningEffects u cfg a).flatMap fun e =>
        (e.mods.filter fun m => m.tgtAttr == attr && affectsLocal cfg a m x tx).map fun m => ⟨a, e, m, none⟩ := by
    unfold localSpecs
    rw [hrun, List.filter_flatMap]
    exact List.flatMap_congr fun e _ => filter_local a e
  have hp : ((projSpecs u cfg d a).filter (fun s => s.m.tgtAttr == attr && selects cfg s x tx)).Perm
      ((runningEffects u cfg a).flatMap fun e => ((projectionTargets cfg a e).flatMap fun tg =>
        (e.mods.filter fun m => m.domain == 4 && m.tgtAttr == attr && affectsProjected cfg a m tg x tx).map
          fun m => (⟨a, e, m, some tg⟩ : Spec)) ++
        (if e.isBuff then boostSpecsW cfg x tx attr (bmsOf u R attr a) a e else [])) := by
    unfold projSpecs
    rw [List.filter_flatMap, hrun]
    refine List.Perm.flatMap_left _ fun e he => ?_
    cases hbf : e.isBuff with
    | false =>
      rw [targetsOf_settled hc hd ha he hbf, projMods_of_not_buff a hbf]
      simp only [Bool.or_false, Bool.false_eq_true, if_false, List.append_nil]
      split
      · exact projSpecs_filter_perm (.inr (.refl _)) fun t => .of_eq (by
          rw [List.filter_filter]
          exact List.filter_congr fun m _ => by cases m.domain == 4 <;> cases m.tgtAttr == attr <;> simp)
      · rename_i hcat
        simp [projectionTargets, hcat]
    | true =>
      have hcat : (e.category == 2) = false := by
        simpa using hnp e (runningEffects_mem he) hbf
      obtain ⟨⟨bms, hR, hperm⟩, htg⟩ := hd.payload a ha e he hbf
      simp only [Bool.or_true, if_true, projectionTargets, hcat, Bool.false_eq_true, if_false,
        List.flatMap_nil, List.nil_append]
      exact projSpecs_filter_perm (htg.imp_right targetsOf_settled_buff) fun t =>
        projMods_filter_perm hbf hperm (buffModifiers_ok hR) (bmsOf_of_ok attr hR).2 t
  rw [List.filter_append, hl]
  refine (List.Perm.append_left _ hp).trans ?_
  refine (List.flatMap_append_perm _ _ _).trans (List.Perm.of_eq ?_)
  refine List.flatMap_congr fun e _ => ?_
  unfold specsW
  rw [List.append_assoc]

theorem specsOn_settled_perm (hc : UniqueIds cfg) (hnp : ∀ e ∈ u.effects, e.isBuff = true → e.category ≠ 2)
    {rd : Reader} (hd : BuffSettledFor u cfg rd d) {x : Item} {tx : ItemType} {attr : Int} :
    (specsOn u cfg d x tx attr).Perm
      (cfg.items.flatMap fun a => (runningEffects u cfg a).flatMap fun e =>
        specsW cfg x tx attr a e ++
          (if e.isBuff then boostSpecsW cfg x tx attr (bmsOf u rd attr a) a e else [])) := by
  unfold specsOn allSpecs
  rw [List.filter_flatMap]
  exact List.Perm.flatMap_left _ fun a ha => specs_item_perm_buff hc hnp hd ha

theorem gatherD_buff_perm (hc : UniqueIds cfg) (hnp : ∀ e ∈ u.effects, e.isBuff = true → e.category ≠ 2)
    {rd : Reader} (hd : BuffSettledFor u cfg rd d) (immune : List Int) (x : Item) (tx : ItemType) (attr : Int) :
    C08World.RelOut (gatherD u cfg d immune rd x tx attr) (gather u cfg immune rd x tx attr) := by
  rw [gatherD_eq_fold, gather_eq_specs fun a ha e he hbf =>
    let ⟨⟨_, hR, _⟩, _⟩ := hd.payload a ha e he hbf; (bmsOf_of_ok attr hR).1]
  refine foldlM_stepS_perm (specsOn_settled_perm (x := x) (tx := tx) hc hnp hd) fun s hs => ?_
  unfold specOut
  rw [immuneOf_settled hc hd immune (specsOn_mem hs).1]

theorem valueOfD_buff_cases (hc : UniqueIds cfg) (hnp : ∀ e ∈ u.effects, e.isBuff = true → e.category ≠ 2)
    {rd : Reader} (hd : BuffSettledFor u cfg rd d) (immune limited : List Int) (pen : Nat → Rat) {x : Item}
    (hx : x ∈ cfg.items) (am : AttrMeta) :
    valueOfD u cfg d immune limited pen rd x am = valueOf u cfg immune limited pen rd x am ∨
    (IsErrOf rd (valueOfD u cfg d immune limited pen rd x am) ∧
      IsErrOf rd (valueOf u cfg immune limited pen rd x am)) := by
  rw [valueOf_eq, valueOfD_eq_with, typeOf?_settled hc hd hx]
  exact (valueWith_rel id Option.map_id_apply.symm (fun _ => rfl) fun tx _ =>
    gatherD_buff_perm hc hnp hd immune x tx am.id).imp id fun ⟨_, h1, h2⟩ =>
      ⟨gatherD_isErrOf h1, gather_err_kind h2, let ⟨y, a, hr, _⟩ := gather_err_readAt h2; ⟨y, a, hr⟩⟩

/-- As values: equal when the reader never answers `notWF`, so that both errors are `divZero`. -/
theorem valueOfD_buff_eq (hc : UniqueIds cfg) (hnp : ∀ e ∈ u.effects, e.isBuff = true → e.category ≠ 2)
    {rd : Reader} (hd : BuffSettledFor u cfg rd d) (immune limited : List Int) (pen : Nat → Rat)
    (hrd : ∀ y a, rd y a ≠ .notWF) {x : Item} (hx : x ∈ cfg.items) (am : AttrMeta) :
    valueOfD u cfg d immune limited pen rd x am = valueOf u cfg immune limited pen rd x am :=
  (valueOfD_buff_cases hc hnp hd immune limited pen hx am).elim id fun h =>
    (h.1.eq_divZero hrd).trans (h.2.eq_divZero hrd).symm

theorem hnp_of_noBuff (hb : ∀ e ∈ u.effects, e.isBuff = false) :
    ∀ e ∈ u.effects, e.isBuff = true → e.category ≠ 2 :=
  fun e he h => by rw [hb e he] at h; cases h

theorem valueOfD_derived (hb : ∀ e ∈ u.effects, e.isBuff = false) (hc : UniqueIds cfg)
    (immune limited : List Int) (pen : Nat → Rat) (rd : Reader) {x : Item} (hx : x ∈ cfg.items) (am : AttrMeta) :
    valToOption (valueOfD u cfg (derivedDyn u cfg) immune limited pen rd x am) =
      valToOption (valueOf u cfg immune limited pen rd x am) := by
  rcases valueOfD_buff_cases hc (hnp_of_noBuff hb) (buffSettledFor_derived hb rd)
    immune limited pen hx am with h | ⟨h1, h2⟩
  · rw [h]
  · rw [valToOption_err h1, valToOption_err h2]

theorem evalD_derived (hb : ∀ e ∈ u.effects, e.isBuff = false) (hc : UniqueIds cfg)
    (immune limited : List Int) (pen : Nat → Rat) (n : Node) (f : Node → Option Rat) :
    evalD u cfg (derivedDyn u cfg) immune limited pen n f =
      match item? cfg n.1, attrMeta? u n.2 with
      | some x, some am => valToOption (valueOf u cfg immune limited pen (readerOf u f) x am)
      | _, _ => none := by
  unfold evalD
  cases hx : item? cfg n.1 with
  | none => rfl
  | some x =>
    cases attrMeta? u n.2 with
    | none => rfl
    | some am => exact valueOfD_derived hb hc immune limited pen _ (item?_mem hx) am

/-! ## A two-item world with projected effects, for non-vacuity here and in the files that import this one

A ship (type 1, attribute 37 = 100) and a mid-slot module (type 2, attribute 20 = 3/2, active, targeting the
ship of its own fit) with two running projectable effects; each has a local modifier (ship of the fit) and a
projected one (target) on the ship's attribute 37.  The message level lists the two local specs first, the
specification goes effect by effect: the gathered lists differ in order (operators 4,5,6,7 vs 4,6,5,7; in
`ModOperator` 4 is `mod_add`, 5 `mod_sub`, 6 `post_mul`, 7 `post_mul_immune`), the value is
(100 + 3/2 − 3/2) · 3/2 · 3/2 on both levels. -/
def settleU : Universe :=
  { attrs := [⟨20, none, none, true, true⟩, ⟨37, none, none, true, true⟩],
    effects := [⟨1000, 2, none, none, false, [⟨1, 3, none, 37, 4, 1, none, 20⟩, ⟨1, 4, none, 37, 6, 1, none, 20⟩]⟩,
                ⟨1001, 2, none, none, false, [⟨1, 3, none, 37, 5, 1, none, 20⟩, ⟨1, 4, none, 37, 7, 1, none, 20⟩]⟩],
    types := [⟨1, none, some 6, none, [(37, 100)], [], []⟩,
              ⟨2, none, some 7, some 1000, [(20, 3/2)], [1000, 1001], []⟩] }
def settleShip : Item := ⟨1, .ship, 1, 0, 1, none, none, none, []⟩
def settleCfg : Config :=
  { hasSource := true, fits := [⟨0, some 1, none, none⟩],
    items := [settleShip, ⟨2, .moduleMid, 2, 0, 3, none, some 1, none, [(1001, 3)]⟩] }
def settleRd : Reader := fun _ a => if a == 20 then .ok (3/2) else .absent

example : UniqueIds settleCfg := by unfold UniqueIds; decide
example : ∀ e ∈ settleU.effects, e.isBuff = false := by decide
example : (gatherD settleU settleCfg (derivedDyn settleU settleCfg) specImmune settleRd settleShip
    ⟨1, none, some 6, none, [(37, 100)], [], []⟩ 37).toOption.map (·.map (·.op)) = some [4, 5, 6, 7] := by
  decide +kernel
example : (gather settleU settleCfg specImmune settleRd settleShip
    ⟨1, none, some 6, none, [(37, 100)], [], []⟩ 37).toOption.map (·.map (·.op)) = some [4, 6, 5, 7] := by
  decide +kernel
example : valueOfD settleU settleCfg (derivedDyn settleU settleCfg) specImmune specLimited (fun _ => 1) settleRd settleShip
    ⟨37, none, none, true, true⟩ = .ok 225 := by decide +kernel
example : valueOf settleU settleCfg specImmune specLimited (fun _ => 1) settleRd settleShip
    ⟨37, none, none, true, true⟩ = .ok 225 := by decide +kernel

end Eos.Micro
