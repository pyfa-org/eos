/-! A dependency graph with local evaluation has exactly one valuation that solves its local equations, the
from-scratch valuation `spec`; a cache is sound when it agrees with `spec` and is dependency-closed (`Inv`).
`none` stands for "no value": an absent attribute or a failed calculation. -/

namespace Eos.DepCache

variable {N V : Type}

structure Graph (N V : Type) where
  deps : N → List N
  eval : N → (N → Option V) → Option V
  rank : N → Nat
  acyclic : ∀ n m, m ∈ deps n → rank m < rank n
  eval_local : ∀ n (f g : N → Option V), (∀ m, m ∈ deps n → f m = g m) → eval n f = eval n g

def specF (G : Graph N V) : Nat → N → Option V
  | 0, _ => none
  | k+1, n => G.eval n (specF G k)

def spec (G : Graph N V) (n : N) : Option V := specF G (G.rank n + 1) n

theorem specF_eq_spec (G : Graph N V) (n : N) : ∀ k, G.rank n < k → specF G k n = spec G n := by
  induction n using (measure G.rank).wf.induction with
  | _ n ih =>
    intro
    | k + 1, hk => exact G.eval_local n _ _ fun m hm =>
      have hr := G.acyclic n m hm
      (ih m hr k (Nat.lt_of_lt_of_le hr (Nat.le_of_lt_succ hk))).trans (ih m hr _ hr).symm

theorem spec_unfold (G : Graph N V) (n : N) : spec G n = G.eval n (spec G) :=
  G.eval_local n _ _ fun m hm => specF_eq_spec G m _ (G.acyclic n m hm)

/-- `spec G` is the only solution of the local equations, also on a part `S` of the nodes when what `S` reads outside
`S` is right already. -/
theorem spec_unique_on (G : Graph N V) {σ : N → Option V} {S : N → Prop} (h : ∀ n, S n → σ n = G.eval n σ)
    (hS : ∀ n, S n → ∀ m ∈ G.deps n, S m ∨ σ m = spec G m) (n : N) (hs : S n) : σ n = spec G n := by
  induction n using (measure G.rank).wf.induction with
  | _ n ih =>
    rw [h n hs, spec_unfold]
    exact G.eval_local n _ _ fun m hm => (hS n hs m hm).elim (ih m (G.acyclic n m hm)) id

theorem spec_unique (G : Graph N V) {σ : N → Option V} (h : ∀ n, σ n = G.eval n σ) : σ = spec G :=
  funext fun n => spec_unique_on G (S := fun _ => True) (fun n _ => h n) (fun _ _ _ _ => .inl trivial) n trivial

theorem spec_congr_graph (G G' : Graph N V) (he : ∀ n f, G'.eval n f = G.eval n f) (n : N) :
    spec G' n = spec G n :=
  (congrFun (spec_unique G' fun n => (spec_unfold G n).trans (he n _).symm) n).symm

/-- A cached node may have an *uncached* dependency when that dependency has no value (the guard
`spec G m ≠ none`): the real cache stores values only, so a read that finds an attribute absent leaves no entry. -/
structure Inv (G : Graph N V) (K : N → Option V) : Prop where
  coh : ∀ n v, K n = some v → spec G n = some v
  closed : ∀ n, K n ≠ none → ∀ m, m ∈ G.deps n → spec G m ≠ none → K m ≠ none

def restrict (K : N → Option V) (R : N → Bool) : N → Option V :=
  fun n => if R n then none else K n

theorem inv_after_change (G G' : Graph N V) (K : N → Option V) (R : N → Bool)
    (hinv : Inv G K)
    (hsame : ∀ n, K n ≠ none → R n = false →
        G'.deps n = G.deps n ∧ ∀ f, G'.eval n f = G.eval n f)
    -- whatever a surviving cached node reads (in `G'`) is not in `R`, cached or not: harmless for a cascade,
    -- which names cached entries only
    (hup : ∀ n, K n ≠ none → R n = false → ∀ m, m ∈ G'.deps n → R m = false)
    -- needed because of the guard in `Inv.closed`: a dependency that gains a value would have to be cached at once
    (habs : ∀ n, K n ≠ none → R n = false → ∀ m, m ∈ G'.deps n →
        (spec G m = none ↔ spec G' m = none)) :
    Inv G' (restrict K R) := by
  -- on the survivors `spec G'` solves the equations of `G`, and what they read is a survivor or has no value
  have key : ∀ n, K n ≠ none ∧ R n = false → spec G' n = spec G n :=
    spec_unique_on G (fun n ⟨hK, hR⟩ => (spec_unfold G' n).trans ((hsame n hK hR).2 _)) fun n ⟨hK, hR⟩ m hm => by
      have hm' : m ∈ G'.deps n := (hsame n hK hR).1 ▸ hm
      cases hs : spec G m with
      | none => exact .inr ((habs n hK hR m hm').1 hs)
      | some w => exact .inl ⟨hinv.closed n hK m hm (hs ▸ Option.some_ne_none w), hup n hK hR m hm'⟩
  constructor
  · intro n v h
    unfold restrict at h
    cases hR : R n with
    | true => simp [hR] at h
    | false =>
      simp [hR] at h
      rw [key n ⟨h ▸ Option.some_ne_none v, hR⟩]
      exact hinv.coh n v h
  · intro n hn m hm hs
    unfold restrict at hn ⊢
    cases hR : R n with
    | true => simp [hR] at hn
    | false =>
      simp [hR] at hn
      have hRm := hup n hn hR m hm
      simp [hRm]
      obtain ⟨hd, _⟩ := hsame n hn hR
      have hsG : spec G m ≠ none := fun h0 => hs ((habs n hn hR m hm).mp h0)
      exact hinv.closed n hn m (by rw [← hd]; exact hm) hsG

theorem inv_after_fill (G : Graph N V) (K : N → Option V) (S : N → Bool)
    (hinv : Inv G K)
    (hS : ∀ n, S n = true → ∀ m, m ∈ G.deps n → spec G m ≠ none → (S m = true ∨ K m ≠ none)) :
    Inv G (fun n => if S n then spec G n else K n) := by
  constructor
  · intro n v h
    by_cases hs : S n = true
    · simpa [hs] using h
    · simp [hs] at h; exact hinv.coh n v h
  · intro n hn m hm hsm
    by_cases hm' : S m = true
    · simpa [hm'] using hsm
    · have hKm : K m ≠ none := by
        by_cases hs : S n = true
        · exact (hS n hs m hm hsm).resolve_left hm'
        · exact hinv.closed n (by simpa [hs] using hn) m hm hsm
      simpa [hm'] using hKm

end Eos.DepCache
