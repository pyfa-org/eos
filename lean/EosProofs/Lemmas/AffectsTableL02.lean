import EosGen.AffectsTableL02
namespace Eos.C02
open Eos.AffectsSpec EosGen.AffectsTable

theorem affects_blockL02_ok : localBlockOk blockL02 blockL02Cases blockL02Modified blockL02Valid = true := by decide +kernel

end Eos.C02
