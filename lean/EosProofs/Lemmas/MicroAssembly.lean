import EosProofs.Lemmas.MicroSettle
import EosProofs.Lemmas.MicroLegal
import EosProofs.Lemmas.EvalTable
/-! Where the message-level model meets its specification.  `worldGraph` is the one graph family (`L.Ties`) every
headline uses, and it is total: `graphOfV` where item ids are unique, `graphOf` elsewhere. -/
namespace Eos.Micro
open Eos.World Eos.DepCache Eos.Machine Eos.Micro.L

variable {u : Universe} {immune limited : List Int} {pen : Nat → Rat} {cfg : Config} {rd : Reader}
  {keep : Config → Node → Bool} {W : Config × Dyn → Graph Node Rat}

instance (cfg : Config) : Decidable (UniqueIds cfg) :=
  inferInstanceAs (Decidable (cfg.items.map (·.id)).Nodup)

/-- Dependencies kept by `worldGraph`: the valued ones where item ids are unique (every state an invariant
`MInv` speaks about), those with metadata elsewhere (so that the family is total). -/
def worldKeep (u : Universe) (cfg : Config) (m : Node) : Bool :=
  if UniqueIds cfg then valued u cfg m else (attrMeta? u m.2).isSome

def worldGraph (u : Universe) (immune limited : List Int) (pen : Nat → Rat) (hwf : rankWF u = true)
    (c : Config × Dyn) : Graph Node Rat :=
  if h : UniqueIds c.1 then graphOfV u immune limited pen hwf c h else graphOf u immune limited pen hwf c

theorem worldGraph_ties (hwf : rankWF u = true) :
    Ties u immune limited pen (worldKeep u) (worldGraph u immune limited pen hwf) where
  hdeps := by
    intro cfg d n
    unfold worldGraph
    by_cases h : UniqueIds cfg
    · have hk : worldKeep u cfg = valued u cfg := funext fun m => by simp [worldKeep, h]
      rw [dif_pos h, hk]; rfl
    · have hk : worldKeep u cfg = fun m => (attrMeta? u m.2).isSome := funext fun m => by simp [worldKeep, h]
      rw [dif_neg h, hk]; rfl
  heval := by
    intro cfg d n f
    unfold worldGraph
    by_cases h : UniqueIds cfg
    · rw [dif_pos h]; rfl
    · rw [dif_neg h]; rfl

theorem worldGraph_deps {d : Dyn} (hwf : rankWF u = true) (hU : UniqueIds cfg) (n : Node) :
    (worldGraph u immune limited pen hwf (cfg, d)).deps n = depsV u cfg d n := by
  unfold worldGraph; rw [dif_pos hU]; rfl

theorem spec_worldGraph (hwf : rankWF u = true) (c : Config × Dyn) :
    spec (worldGraph u immune limited pen hwf c) = spec (graphOf u immune limited pen hwf c) :=
  funext (spec_congr_graph _ _ ((worldGraph_ties hwf).heval c.1 c.2))

/-- No attribute calculation of state `(cfg, d)` ends in a division by zero (the "non-zero divisors" of the
property's quantifier): with the from-scratch values of the other nodes as inputs, `valueOfD` is never
`divZero`. -/
def ErrorFree (u : Universe) (immune limited : List Int) (pen : Nat → Rat) (W : Config × Dyn → Graph Node Rat)
    (cfg : Config) (d : Dyn) : Prop :=
  ∀ x ∈ cfg.items, ∀ am ∈ u.attrs,
    valueOfD u cfg d immune limited pen (readerOf u (spec (W (cfg, d)))) x am ≠ .divZero

theorem not_isErrOf (hrd : ∀ y a, rd y a = .absent ∨ ∃ v, rd y a = .ok v) {w : Val} : ¬ IsErrOf rd w := by
  rintro ⟨hw, y, a, rfl⟩
  rcases hrd y a with h | ⟨v, h⟩ <;> rw [h] at hw <;> rcases hw with hw | hw <;> cases hw

/-- The static condition is the body of `L.present`, here for an item and metadata given directly and not looked up
from a node. -/
theorem valueOfD_reader (hrd : ∀ y a, rd y a = .absent ∨ ∃ v, rd y a = .ok v) (d : Dyn)
    (immune limited : List Int) (pen : Nat → Rat) (x : Item) (am : AttrMeta) :
    valueOfD u cfg d immune limited pen rd x am = .divZero ∨
    ((∃ v, valueOfD u cfg d immune limited pen rd x am = .ok v) ∧
      (if x.kind == .skill && am.id == 280 then x.level.isSome else
        match typeOf? u d x with
        | none => false
        | some tx => (baseOf tx am).isSome) = true) ∨
    (valueOfD u cfg d immune limited pen rd x am = .absent ∧
      (if x.kind == .skill && am.id == 280 then x.level.isSome else
        match typeOf? u d x with
        | none => false
        | some tx => (baseOf tx am).isSome) = false) := by
  rw [valueOfD_eq_with]
  unfold valueWith
  split
  · cases x.level with
    | none => exact Or.inr (Or.inr ⟨rfl, rfl⟩)
    | some l => exact Or.inr (Or.inl ⟨⟨l, rfl⟩, rfl⟩)
  · cases typeOf? u d x with
    | none => exact Or.inr (Or.inr ⟨rfl, rfl⟩)
    | some tx =>
      dsimp only
      rw [show World.baseOf tx am = baseOf tx am from rfl]
      cases baseOf tx am with
      | none => exact Or.inr (Or.inr ⟨rfl, rfl⟩)
      | some b =>
        cases hl : gatherD u cfg d immune rd x tx am.id with
        | error w => exact (not_isErrOf hrd (gatherD_isErrOf hl)).elim
        | ok l =>
          cases hc : capOf rd x am with
          | error w =>
            obtain ⟨hw, mx, -, hr⟩ := capOf_error hc
            exact (not_isErrOf hrd ⟨hw, x, mx, hr⟩).elim
          | ok cap =>
            dsimp only
            split
            · exact Or.inr (Or.inl ⟨⟨_, rfl⟩, rfl⟩)
            · exact Or.inl rfl

/-- `readerOf` never yields `notWF` or `divZero`, so the only other way to be without a value is a division by zero
inside `calculate`. -/
theorem staticAt_of_errorFree {keep : Config → Node → Bool} {W : Config × Dyn → Graph Node Rat}
    (T : Ties u immune limited pen keep W) {cfg : Config} {d : Dyn}
    (h : ErrorFree u immune limited pen W cfg d) : StaticAt u W cfg d := by
  intro n
  rw [T.spec_fix]
  unfold evalD present
  cases hx : item? cfg n.1 with
  | none => simp
  | some x =>
    cases ham : attrMeta? u n.2 with
    | none => simp
    | some am =>
      dsimp only
      have hne := h x (item?_mem hx) am (attrMeta?_mem ham)
      rcases valueOfD_reader (u := u) (cfg := cfg) (readerOf_ok_or_absent (spec (W (cfg, d)))) d immune limited
        pen x am with h0 | ⟨⟨v, hv⟩, hp⟩ | ⟨ha, hp⟩
      · exact absurd h0 hne
      · rw [hv]; exact ⟨fun _ => hp, fun _ => by simp [valToOption]⟩
      · rw [ha]
        refine ⟨fun hc => absurd rfl hc, fun hc => ?_⟩
        exact absurd (hc.symm.trans hp) (by decide)

theorem spec_no_meta (hwf : rankWF u = true) (c : Config × Dyn) {n : Node} (h : attrMeta? u n.2 = none) :
    spec (worldGraph u immune limited pen hwf c) n = none := by
  rw [spec_worldGraph, spec_unfold]
  show evalD u c.1 c.2 immune limited pen n _ = none
  unfold evalD; rw [h]; cases item? c.1 n.1 <;> rfl

theorem L.Ties.spec_node (T : Ties u immune limited pen keep W) {d : Dyn} {n : Node} {x : Item} {am : AttrMeta}
    (hx : item? cfg n.1 = some x) (ham : attrMeta? u n.2 = some am) :
    spec (W (cfg, d)) n =
      valToOption (valueOfD u cfg d immune limited pen (readerOf u (spec (W (cfg, d)))) x am) :=
  (T.spec_fix n).trans (evalD_node hx ham _)

def BuffPayloadOK (u : Universe) (cfg : Config) (immune limited : List Int) (pen : Nat → Rat) (d : Dyn) : Prop :=
  BuffPayloadFor u cfg (read (evalAll u cfg immune limited pen)) d

/-- Settled dynamic state of a universe with fleet boosts: `derivedDyn` on loaded items, running effects and
the recorded targets of ordinary effects, `BuffPayloadOK` for the boosts. -/
def BuffSettled (u : Universe) (cfg : Config) (immune limited : List Int) (pen : Nat → Rat) (d : Dyn) : Prop :=
  BuffSettledFor u cfg (read (evalAll u cfg immune limited pen)) d

theorem BuffSettled.payloadOK {d : Dyn} (h : BuffSettled u cfg immune limited pen d) :
    BuffPayloadOK u cfg immune limited pen d := h.payload

theorem buffSettled_derived (hb : ∀ e ∈ u.effects, e.isBuff = false) :
    BuffSettled u cfg immune limited pen (derivedDyn u cfg) :=
  buffSettledFor_derived hb _

/-- The reader of a valuation is the table's public read where the valuation holds the table's entry and that is no
division by zero (`h`, asked for attributes with metadata); a skill's level and an attribute without metadata are
answered alike by both. -/
theorem readerOf_eq_read (hwf : rankWF u = true) {σ : Node → Option Rat} {y : Item} {b : Int}
    (h : ∀ amb, attrMeta? u b = some amb →
      σ (y.id, b) = valToOption (read (evalAll u cfg immune limited pen) y b) ∧
        read (evalAll u cfg immune limited pen) y b ≠ .divZero) :
    readerOf u σ y b = read (evalAll u cfg immune limited pen) y b := by
  by_cases hov : (y.kind == .skill && b == 280) = true
  · rw [readerOf_override _ hov]; unfold World.read; rw [if_pos hov]; rfl
  · cases hmb : attrMeta? u b with
    | none => rw [readerOf_nometa _ hov hmb, read_no_meta hmb hov]
    | some amb =>
      rw [readerOf_node σ hov hmb, (h amb hmb).1]
      cases hr : read (evalAll u cfg immune limited pen) y b with
      | ok v => rfl
      | absent => rfl
      | divZero => exact absurd hr (h amb hmb).2
      | notWF => exact absurd hr (read_ne (.inr rfl) (evalAll_tableOK ((rankWF_iff u).1 hwf) immune limited pen).1 y b)

/-- By induction along the rank order: what the calculation of `(x, am)` reads stands earlier in `u.attrs` or has no
metadata, so there the reader of the from-scratch values is the table's read (`readerOf_eq_read`).  `hz` excludes
division by zero in either of the two ways a caller has it: no `divZero` entry in the table, or `ErrorFree` of the
state. -/
theorem settled_read (hwf : rankWF u = true) (hun : UniqueAttrs u) (hc : UniqueIds cfg)
    (hnp : ∀ e ∈ u.effects, e.isBuff = true → e.category ≠ 2) {d : Dyn}
    (hd : BuffSettled u cfg immune limited pen d)
    (hz : (∀ entry ∈ evalAll u cfg immune limited pen, entry.2 ≠ .divZero) ∨
      ErrorFree u immune limited pen (worldGraph u immune limited pen hwf) cfg d)
    {x : Item} (hx : x ∈ cfg.items) {am : AttrMeta} (ham : am ∈ u.attrs) :
    read (evalAll u cfg immune limited pen) x am.id = valueOfD u cfg d immune limited pen
        (readerOf u (spec (worldGraph u immune limited pen hwf (cfg, d)))) x am ∧
    read (evalAll u cfg immune limited pen) x am.id ≠ .divZero := by
  induction hk : (u.attrs.map (·.id)).idxOf am.id using Nat.strongRecOn generalizing x am with
  | _ k ih =>
    have heq : read (evalAll u cfg immune limited pen) x am.id = valueOfD u cfg d immune limited pen
        (readerOf u (spec (worldGraph u immune limited pen hwf (cfg, d)))) x am := by
      rw [evalAll_fix hwf hun hc hx ham, ← valueOfD_buff_eq hc hnp hd immune limited pen
        (read_ne (.inr rfl) (evalAll_tableOK ((rankWF_iff u).1 hwf) immune limited pen).1) hx am]
      refine (valueOfD_congr_deps (n := (x.id, am.id)) (item?_of_mem hc hx) (attrMeta?_of_mem hun ham)
        fun y hy b hm => readerOf_eq_read hwf fun amb hmb => ?_).symm
      obtain rfl := attrMeta?_id hmb
      obtain ⟨h1, h2⟩ := ih _ (hk ▸ deps_rank_lt hwf hm (by rw [hmb]; rfl)) hy (attrMeta?_mem hmb) rfl
      exact ⟨h1 ▸ (worldGraph_ties hwf).spec_node (n := (y.id, amb.id)) (item?_of_mem hc hy) hmb, h2⟩
    exact ⟨heq, hz.elim (fun hz => read_ne (.inl rfl) hz x am.id) fun hz => heq ▸ hz x hx am ham⟩

theorem errorFree_of_buffSettled (hwf : rankWF u = true) (hun : UniqueAttrs u) (hc : UniqueIds cfg)
    (hnp : ∀ e ∈ u.effects, e.isBuff = true → e.category ≠ 2) {d : Dyn}
    (hd : BuffSettled u cfg immune limited pen d)
    (hnz : ∀ entry ∈ evalAll u cfg immune limited pen, entry.2 ≠ .divZero) :
    ErrorFree u immune limited pen (worldGraph u immune limited pen hwf) cfg d := by
  intro x hx am ham
  obtain ⟨heq, hne⟩ := settled_read hwf hun hc hnp hd (Or.inl hnz) hx ham
  rw [← heq]
  exact hne

theorem settled_spec_eq_table_buff_of_errorFree (hwf : rankWF u = true) (hun : UniqueAttrs u) (hc : UniqueIds cfg)
    (hnp : ∀ e ∈ u.effects, e.isBuff = true → e.category ≠ 2) {d : Dyn}
    (hd : BuffSettled u cfg immune limited pen d)
    (hef : ErrorFree u immune limited pen (worldGraph u immune limited pen hwf) cfg d)
    {x : Item} (hx : x ∈ cfg.items) {am : AttrMeta} (ham : am ∈ u.attrs) :
    spec (worldGraph u immune limited pen hwf (cfg, d)) (x.id, am.id) =
      valToOption (read (evalAll u cfg immune limited pen) x am.id) ∧
    read (evalAll u cfg immune limited pen) x am.id ≠ .divZero := by
  obtain ⟨heq, hnz⟩ := settled_read hwf hun hc hnp hd (Or.inr hef) hx ham
  exact ⟨heq ▸ (worldGraph_ties hwf).spec_node (n := (x.id, am.id)) (item?_of_mem hc hx) (attrMeta?_of_mem hun ham), hnz⟩

/-- **Settled states meet the table**: the from-scratch value of `(cfg, d)` is what a public read of `World.evalAll`
returns. -/
theorem settled_spec_eq_table_buff (hwf : rankWF u = true) (hun : UniqueAttrs u) (hc : UniqueIds cfg)
    (hnp : ∀ e ∈ u.effects, e.isBuff = true → e.category ≠ 2)
    (hnz : ∀ entry ∈ evalAll u cfg immune limited pen, entry.2 ≠ .divZero) {d : Dyn}
    (hd : BuffSettled u cfg immune limited pen d)
    {x : Item} (hx : x ∈ cfg.items) {am : AttrMeta} (ham : am ∈ u.attrs) :
    spec (worldGraph u immune limited pen hwf (cfg, d)) (x.id, am.id) =
      valToOption (read (evalAll u cfg immune limited pen) x am.id) :=
  (settled_spec_eq_table_buff_of_errorFree hwf hun hc hnp hd (errorFree_of_buffSettled hwf hun hc hnp hd hnz) hx ham).1

/-- `settled_read` for the derived state of a universe without buff effects, the attribute given by its position in
`u.attrs` and the table's read as `valueOf` over the table of the earlier attributes. -/
theorem settled_core (hb : ∀ e ∈ u.effects, e.isBuff = false) (hwf : rankWF u = true) (hun : UniqueAttrs u)
    (hc : UniqueIds cfg)
    (hz : (∀ entry ∈ evalAll u cfg immune limited pen, entry.2 ≠ .divZero) ∨
      (∀ x ∈ cfg.items, ∀ am ∈ u.attrs, valueOfD u cfg (derivedDyn u cfg) immune limited pen
        (readerOf u (spec (graphOf u immune limited pen hwf (cfg, derivedDyn u cfg)))) x am ≠ .divZero)) :
    ∀ (k : Nat) (pre : List AttrMeta) (am : AttrMeta) (post : List AttrMeta), u.attrs = pre ++ am :: post →
      pre.length = k → ∀ x ∈ cfg.items,
      valueOf u cfg immune limited pen (readDep u (pre.foldl (tblStep u cfg immune limited pen) [])) x am =
        valueOfD u cfg (derivedDyn u cfg) immune limited pen
          (readerOf u (spec (graphOf u immune limited pen hwf (cfg, derivedDyn u cfg)))) x am ∧
      valueOf u cfg immune limited pen (readDep u (pre.foldl (tblStep u cfg immune limited pen) [])) x am ≠
        .divZero :=
  fun _ pre am post hsplit _ x hx => by
    rw [← read_evalAll hun hc hsplit hx, ← spec_worldGraph]
    exact settled_read hwf hun hc (hnp_of_noBuff hb) (buffSettled_derived hb)
      (hz.imp_right fun hz => by unfold ErrorFree; rwa [spec_worldGraph]) hx
      (hsplit ▸ List.mem_append_right _ List.mem_cons_self)

/-- `settled_spec_eq_table_buff` for a universe without buff effects, where the derived state is the settled one. -/
theorem settled_spec_eq_table (hb : ∀ e ∈ u.effects, e.isBuff = false) (hwf : rankWF u = true)
    (hun : UniqueAttrs u) (hc : UniqueIds cfg)
    (hnz : ∀ entry ∈ evalAll u cfg immune limited pen, entry.2 ≠ .divZero)
    {x : Item} (hx : x ∈ cfg.items) {am : AttrMeta} (ham : am ∈ u.attrs) :
    spec (worldGraph u immune limited pen hwf (cfg, derivedDyn u cfg)) (x.id, am.id) =
      valToOption (read (evalAll u cfg immune limited pen) x am.id) :=
  settled_spec_eq_table_buff hwf hun hc (hnp_of_noBuff hb) hnz (buffSettled_derived hb) hx ham

/-- The same from `ErrorFree` of the settled state, which also excludes `divZero` from the table's reads. -/
theorem settled_spec_eq_table_of_errorFree (hb : ∀ e ∈ u.effects, e.isBuff = false) (hwf : rankWF u = true)
    (hun : UniqueAttrs u) (hc : UniqueIds cfg)
    (hef : ErrorFree u immune limited pen (worldGraph u immune limited pen hwf) cfg (derivedDyn u cfg))
    {x : Item} (hx : x ∈ cfg.items) {am : AttrMeta} (ham : am ∈ u.attrs) :
    spec (worldGraph u immune limited pen hwf (cfg, derivedDyn u cfg)) (x.id, am.id) =
      valToOption (read (evalAll u cfg immune limited pen) x am.id) ∧
    read (evalAll u cfg immune limited pen) x am.id ≠ .divZero :=
  settled_spec_eq_table_buff_of_errorFree hwf hun hc (hnp_of_noBuff hb) (buffSettled_derived hb) hef hx ham

/-- Side conditions of an event with "no calculation divides by zero, before and after" in the place of
`StaticAround`. -/
def WStepOKE (u : Universe) (immune limited : List Int) (pen : Nat → Rat) (W : Config × Dyn → Graph Node Rat)
    (s : MState) : WStep → Prop
  | .read S => Legal W (toState s) (.read S)
  | .micro st => StepOK W s st ∧ (usesStatic st = true →
      ErrorFree u immune limited pen W s.cfg s.dyn ∧
      ErrorFree u immune limited pen W (mstep u s st).cfg (mstep u s st).dyn)
  | .relevel cfg' i attr => RelevelOK u W s cfg' i attr

def WRunOKE (u : Universe) (immune limited : List Int) (pen : Nat → Rat) (W : Config × Dyn → Graph Node Rat)
    (s : MState) : List WStep → Prop
  | [] => True
  | st :: rest => WStepOKE u immune limited pen W s st ∧ WRunOKE u immune limited pen W (wstep u W s st) rest

theorem wstepOK_of_wstepOKE (T : Ties u immune limited pen keep W) {s : MState} {st : WStep}
    (h : WStepOKE u immune limited pen W s st) : WStepOK u W s st := by
  cases st with
  | read S => exact h
  | micro st => exact ⟨h.1, fun hs => ⟨staticAt_of_errorFree T (h.2 hs).1, staticAt_of_errorFree T (h.2 hs).2⟩⟩
  | relevel cfg' i attr => exact h

theorem wrunOK_of_wrunOKE (T : Ties u immune limited pen keep W) :
    ∀ (steps : List WStep) (s : MState), WRunOKE u immune limited pen W s steps → WRunOK u W s steps
  | [], _, _ => trivial
  | _ :: rest, _, h => ⟨wstepOK_of_wstepOKE T h.1, wrunOK_of_wrunOKE T rest _ h.2⟩

theorem world_inv_run (hwf : rankWF u = true) (hun : UniqueAttrs u) (hR : ResistWF u) {cfg : Config} {d : Dyn}
    (hU : UniqueIds cfg) (hC : ChargeWF cfg) (hT : TgtKinds cfg d) (steps : List WStep)
    (ok : WRunOKE u immune limited pen (worldGraph u immune limited pen hwf) ⟨cfg, d, fun _ => none⟩ steps) :
    MInv (worldGraph u immune limited pen hwf)
      (wrun u (worldGraph u immune limited pen hwf) ⟨cfg, d, fun _ => none⟩ steps) :=
  have T := worldGraph_ties (immune := immune) (limited := limited) (pen := pen) hwf
  wrun_inv T hwf hun hR steps ⟨good_init _ (cfg, d), hU, hC, hT⟩ (wrunOK_of_wrunOKE T steps _ ok)

def WStepSide (u : Universe) (W : Config × Dyn → Graph Node Rat) (s : MState) : WStep → Prop
  | .read S => Legal W (toState s) (.read S)
  | .micro st => StepOK W s st
  | .relevel cfg' i attr => RelevelOK u W s cfg' i attr

def WRunSide (u : Universe) (W : Config × Dyn → Graph Node Rat) (s : MState) : List WStep → Prop
  | [] => True
  | st :: rest => WStepSide u W s st ∧ WRunSide u W (wstep u W s st) rest

/-- Configuration and registers of the states a history passes through (a read does not change them). -/
def wregs (u : Universe) (W : Config × Dyn → Graph Node Rat) : MState → List WStep → List (Config × Dyn)
  | s, [] => [(s.cfg, s.dyn)]
  | s, .read S :: rest => wregs u W (wstep u W s (.read S)) rest
  | s, .micro st :: rest => (s.cfg, s.dyn) :: wregs u W (mstep u s st) rest
  | s, .relevel cfg' i attr :: rest => (s.cfg, s.dyn) :: wregs u W (relevel u s cfg' i attr) rest

theorem wregs_head (W : Config × Dyn → Graph Node Rat) : ∀ (l : List WStep) (s : MState),
    (s.cfg, s.dyn) ∈ wregs u W s l
  | [], _ => List.mem_cons_self
  | .read S :: rest, s => wregs_head W rest (wstep u W s (.read S))
  | .micro _ :: _, _ => List.mem_cons_self
  | .relevel .. :: _, _ => List.mem_cons_self

/-- Non-zero divisors in all registers a history passes through — for a concrete history one finite check — turn
its remaining side conditions into `WRunOKE`. -/
theorem wrunOKE_of_errorFree (W : Config × Dyn → Graph Node Rat) :
    ∀ (l : List WStep) (s : MState), (∀ c ∈ wregs u W s l, ErrorFree u immune limited pen W c.1 c.2) →
      WRunSide u W s l → WRunOKE u immune limited pen W s l
  | [], _, _, _ => trivial
  | .read _ :: rest, _, h, side => ⟨side.1, wrunOKE_of_errorFree W rest _ h side.2⟩
  | .micro st :: rest, s, h, side =>
    ⟨⟨side.1, fun _ => ⟨h _ List.mem_cons_self, h _ (List.mem_cons_of_mem _ (wregs_head W rest (mstep u s st)))⟩⟩,
      wrunOKE_of_errorFree W rest _ (fun c hc => h c (List.mem_cons_of_mem _ hc)) side.2⟩
  | .relevel .. :: rest, _, h, side =>
    ⟨side.1, wrunOKE_of_errorFree W rest _ (fun c hc => h c (List.mem_cons_of_mem _ hc)) side.2⟩

end Eos.Micro
