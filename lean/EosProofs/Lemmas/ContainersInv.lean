import EosProofs.Lemmas.ContainersFoot
/-! The ownership invariant (`OwnInv`) method by method.  What a rack method does to its rack is one of
five things (`RackMove`), each of which keeps the invariant and the order of the items that stay; sets, keyed containers
and descriptors are read off their `Spec`. -/
namespace Eos.Containers

inductive RackMove (s : World) (f r : Nat) : World → Prop
  | refl : RackMove s f r s
  | holes {l} (hL : items l = items (s.lists f r)) (hnt : NoTrail l) : RackMove s f r (s.setList f r l)
  | enter {i l} (hi : s.owner i = none) (hL : IsInsertion i (items (s.lists f r)) (items l)) (hnt : NoTrail l) :
      RackMove s f r ((s.setList f r l).setOwner i (some (.rack f r)))
  | leave {i l} (hL : IsInsertion i (items l) (items (s.lists f r))) (hnt : NoTrail l) :
      RackMove s f r ((s.setOwner i none).setList f r l)
  | clear : RackMove s f r ((s.dropOwners (items (s.lists f r))).setList f r [])

theorem RackMove.own {s s' : World} {f r : Nat} (hm : RackMove s f r s') (h : OwnInv s) : OwnInv s' := by
  cases hm with
  | refl => exact h
  | holes hL hnt =>
    refine h.same (fun q => ?_) rfl (noTrail_setList h.noTrail hnt)
    rw [contents_setList]; split
    · next hq => rw [hq, hL]; rfl
    · rfl
  | @enter i l hi hL hnt =>
    exact h.add (p := .rack f r) (L := items l) hi (fun q => by simp [contents_setList]) hL rfl
      (fun f' r' => by simpa using noTrail_setList h.noTrail hnt f' r')
  | @leave i l hL hnt =>
    exact h.remove (p := .rack f r) (L := items l) (fun q => by simp [contents_setList]) hL rfl
      (fun f' r' => by simpa using noTrail_setList (s := s.setOwner i none) h.noTrail hnt f' r')
  | clear =>
    exact h.clear (p := .rack f r) (fun q => by simp [contents_setList]) rfl
      (fun f' r' => by simpa using noTrail_setList (s := s.dropOwners _) h.noTrail noTrail_nil f' r')

theorem RackMove.sublist {s s' : World} {f r : Nat} (hm : RackMove s f r s') :
    (items (s.lists f r)).Sublist (items (s'.lists f r)) ∨ (items (s'.lists f r)).Sublist (items (s.lists f r)) := by
  cases hm with
  | refl => exact Or.inl (List.Sublist.refl _)
  | holes hL _ => left; simp [hL]
  | enter _ hL _ => left; simpa using hL.sublist
  | leave hL _ => right; simpa using hL.sublist
  | clear => right; simp

theorem RackAddOk.move {s s' : World} {f r i : Nat} {l : List (Option Nat)} (hq : RackAddOk s f r i l s')
    (hL : IsInsertion i (items (s.lists f r)) (items l)) (hnt : NoTrail l) : RackMove s f r s' := by
  obtain ⟨hi, rfl⟩ := hq
  exact .enter hi hL hnt

theorem InsertOk.move {s s' : World} {f r : Nat} {index : Int} {v : Option Nat} (hq : InsertOk s f r index v s')
    (hnt : NoTrail (s.lists f r)) : RackMove s f r s' := by
  rcases hq with ⟨_, rfl⟩ | ⟨i, _, hq⟩
  · exact .holes (by simp) (noTrail_cleanup _)
  · refine hq.move (by simpa using items_pyInsert_some (allocate (s.lists f r) (index - 1)) _ i) ?_
    rcases insPos_cases (s.lists f r) index with ha | hk
    · rw [ha]; exact noTrail_pyInsert_some hnt _ _
    · rw [hk, pyInsert_length]; exact noTrail_append_some _ _

theorem RackPutOk.move {s s' : World} {f r k i : Nat} (hq : RackPutOk s f r k i s') (hnt : NoTrail (s.lists f r)) :
    RackMove s f r s' :=
  hq.add.move (items_set_rightpad hq.hole i) (noTrail_set_rightpad hnt k i)

theorem listRemoveAt_move {s : World} {f r k : Nat} (hk : k < (s.lists f r).length) : RackMove s f r (listRemoveAt s f r k).2 := by
  obtain ⟨x, hv⟩ : ∃ x, (s.lists f r)[k]? = some x := ⟨_, List.getElem?_eq_getElem hk⟩
  rw [listRemoveAt_eq s f r k x hv]
  cases x with
  | none => exact .holes (by simpa using items_eraseIdx_none hv) (noTrail_cleanup _)
  | some i => exact .leave (by simpa using items_eraseIdx_some hv) (noTrail_cleanup _)

theorem listFreeAt_move {s : World} {f r k : Nat} (hk : k < (s.lists f r).length) : RackMove s f r (listFreeAt s f r k).2 := by
  obtain ⟨x, hv⟩ : ∃ x, (s.lists f r)[k]? = some x := ⟨_, List.getElem?_eq_getElem hk⟩
  rw [listFreeAt_eq s f r k x hv]
  cases x with
  | none => exact .refl
  | some i => exact .leave (by simpa using items_set_none hv) (noTrail_cleanup _)

/-- An unowned item is in no set, so `set.add` really adds it. -/
theorem SetAddOk.eq {s s' : World} {c : SetId} {i : Nat} (hq : SetAddOk s c i s') (h : OwnInv s) :
    s' = (s.setSet c (i :: s.sets c)).setOwner i (some (.set c)) := by
  obtain ⟨hi, rfl⟩ := hq
  rw [if_neg (show i ∉ s.sets c from h.backRef.not_mem hi (.set c))]

theorem SetAddOk.own {s s' : World} {c : SetId} {i : Nat} (hq : SetAddOk s c i s') (h : OwnInv s) : OwnInv s' :=
  hq.eq h ▸ h.add (p := .set c) (L := i :: s.sets c) hq.unowned (fun q => by simp [contents_setSet]) (IsInsertion.cons i _) rfl
    (h.noTrail_of_lists rfl)

theorem OwnInv.setRemoveCore {s : World} (h : OwnInv s) {c : SetId} {i : Nat} (hm : i ∈ s.sets c) :
    OwnInv ((s.setOwner i none).setSet c ((s.sets c).erase i)) :=
  h.remove (p := .set c) (L := (s.sets c).erase i) (fun q => by simp [contents_setSet]) (IsInsertion.of_mem_erase hm) rfl
    (h.noTrail_of_lists rfl)

theorem setClear_own {s : World} (h : OwnInv s) (c : SetId) : OwnInv (setClear s c).2 :=
  h.clear (p := .set c) (fun q => by simp [setClear, contents_setSet]) rfl
    (h.noTrail_of_lists rfl)

theorem OwnInv.setKeyed {s : World} (h : OwnInv s) (c : SetId) (l : List (Nat × Nat)) : OwnInv (s.setKeyed c l) :=
  h.same (fun q => by simp) rfl (h.noTrail_of_lists rfl)

theorem KeyedRemoveOk.own {s s' : World} {c : SetId} {key i : Nat} (hq : KeyedRemoveOk s c key i s') (h : OwnInv s) :
    OwnInv s' := by
  obtain ⟨hm, rfl⟩ := hq
  exact (h.setRemoveCore hm).setKeyed c _

theorem keyedClear_own {s : World} (h : OwnInv s) (c : SetId) : OwnInv (keyedClear s c).2 :=
  (setClear_own h c).setKeyed c []

theorem OwnInv.release {s : World} (h : OwnInv s) (c : SlotId) : OwnInv (s.release c) := by
  unfold World.release
  cases hold : s.slots c with
  | none => simpa [← hold] using h
  | some o =>
    exact h.remove (p := .slot c) (L := []) (i := o) (fun q => by simp [contents_setSlot])
      ⟨[], [], rfl, by simp [contents, hold]⟩ rfl (h.noTrail_of_lists rfl)

theorem AssignOk.own {s s' : World} {c : SlotId} {v : Option Nat} (hq : AssignOk s c v s') (h : OwnInv s) : OwnInv s' := by
  have hr := h.release c
  rcases hq with ⟨_, rfl⟩ | ⟨i, _, hi, rfl⟩
  · exact hr
  · exact hr.add (p := .slot c) (L := [i]) hi (fun q => by by_cases hq : q = .slot c <;> simp [contents_setSlot, hq])
      ⟨[], [], by simp [contents, World.release], rfl⟩ rfl (hr.noTrail_of_lists rfl)

end Eos.Containers
