import EosGen.AffectsTableL10
namespace Eos.C02
open Eos.AffectsSpec EosGen.AffectsTable

theorem affects_blockL10_ok : localBlockOk blockL10 blockL10Cases blockL10Modified blockL10Valid = true := by decide +kernel

end Eos.C02
