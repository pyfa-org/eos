import EosGen.AffectsTableL14
namespace Eos.C02
open Eos.AffectsSpec EosGen.AffectsTable

theorem affects_blockL14_ok : localBlockOk blockL14 blockL14Cases blockL14Modified blockL14Valid = true := by decide +kernel

end Eos.C02
