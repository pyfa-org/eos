import EosProofs.Lemmas.MicroCascade
/-! The specification's table `World.evalAll` as a function of `(item id, attribute id)` (`tbl_get_eq`), and its defining
equations under its own public read (`evalAll_fix`).  Nothing here is about messages; the file sits above
`Lemmas/MicroCascade.lean` and in `Eos.Micro` only because the uniqueness hypotheses `UniqueIds` (model) and
`L.UniqueAttrs` are defined there. -/
namespace Eos.Micro
open Eos.World Eos.Micro.L

variable {u : Universe} {immune limited : List Int} {pen : Nat → Rat} {cfg : Config}

def tblStep (u : Universe) (cfg : Config) (immune limited : List Int) (pen : Nat → Rat) (t : Table)
    (am : AttrMeta) : Table :=
  t ++ cfg.items.map fun x => ((x.id, am.id), valueOf u cfg immune limited pen (readDep u t) x am)

theorem evalAll_eq_foldl :
    evalAll u cfg immune limited pen = u.attrs.foldl (tblStep u cfg immune limited pen) [] := rfl

theorem tbl_mem (l : List AttrMeta) (t0 : Table) {e : (Nat × Int) × Val}
    (he : e ∈ l.foldl (tblStep u cfg immune limited pen) t0) :
    e ∈ t0 ∨ ∃ p1 amb p2, l = p1 ++ amb :: p2 ∧ ∃ y ∈ cfg.items,
      e = ((y.id, amb.id),
        valueOf u cfg immune limited pen (readDep u (p1.foldl (tblStep u cfg immune limited pen) t0)) y amb) := by
  induction l generalizing t0 with
  | nil => exact Or.inl he
  | cons am l ih =>
    rw [List.foldl_cons] at he
    rcases ih _ he with h | ⟨p1, amb, p2, hl, y, hy, rfl⟩
    · rcases List.mem_append.1 h with h | h
      · exact Or.inl h
      · obtain ⟨y, hy, rfl⟩ := List.mem_map.1 h
        exact Or.inr ⟨[], am, l, rfl, y, hy, rfl⟩
    · exact Or.inr ⟨am :: p1, amb, p2, by rw [hl]; rfl, y, hy, rfl⟩

theorem tbl_sub (pre post : List AttrMeta) :
    ∃ rest, (pre ++ post).foldl (tblStep u cfg immune limited pen) [] =
      pre.foldl (tblStep u cfg immune limited pen) [] ++ rest := by
  rw [List.foldl_append]
  generalize pre.foldl (tblStep u cfg immune limited pen) [] = t0
  induction post generalizing t0 with
  | nil => exact ⟨[], (List.append_nil _).symm⟩
  | cons am post ih =>
    obtain ⟨rest, h⟩ := ih (tblStep u cfg immune limited pen t0 am)
    exact ⟨_, by rw [List.foldl_cons, h]; unfold tblStep; rw [List.append_assoc]⟩

theorem rows_get_eq (k : Int) (F : Item → Val) (i : Nat) (a : Int) :
    Table.get (cfg.items.map fun y => ((y.id, k), F y)) i a = if k = a then (item? cfg i).map F else none := by
  unfold Table.get item?
  rw [List.find?_map]
  by_cases hk : k = a
  · subst hk
    rw [if_pos rfl, show ((fun e : (Nat × Int) × Val => e.1 == (i, k)) ∘ fun y : Item => ((y.id, k), F y)) =
      fun y => y.id == i from funext fun y => by
        show ((y.id == i) && (k == k)) = _
        rw [beq_self_eq_true, Bool.and_true]]
    cases cfg.items.find? _ <;> rfl
  · rw [if_neg hk, List.find?_eq_none.2 (fun y _ => by simp [hk])]; rfl

theorem tbl_get_from (l : List AttrMeta) (t0 : Table) (i : Nat) (a : Int) :
    (l.foldl (tblStep u cfg immune limited pen) t0).get i a =
      (t0.get i a).or ((item? cfg i).bind fun x => (l.find? (·.id == a)).map fun am =>
        valueOf u cfg immune limited pen
          (readDep u ((l.takeWhile (·.id != a)).foldl (tblStep u cfg immune limited pen) t0)) x am) := by
  induction l generalizing t0 with
  | nil => cases item? cfg i <;> simp
  | cons am l ih =>
    rw [List.foldl_cons, ih]
    show ((Table.get (_ ++ _) i a).or _) = _
    rw [Table.get_append, rows_get_eq, List.find?_cons, List.takeWhile_cons]
    by_cases hk : am.id = a
    · subst hk
      rw [Option.or_assoc, if_pos rfl, beq_self_eq_true', bne_self_eq_false]
      cases item? cfg i <;> rfl
    · simp [hk, beq_false_of_ne hk]

theorem tbl_get_eq (l : List AttrMeta) (i : Nat) (a : Int) :
    (l.foldl (tblStep u cfg immune limited pen) []).get i a =
      (item? cfg i).bind fun x => (l.find? (·.id == a)).map fun am =>
        valueOf u cfg immune limited pen
          (readDep u ((l.takeWhile (·.id != a)).foldl (tblStep u cfg immune limited pen) [])) x am :=
  tbl_get_from l [] i a

theorem takeWhile_split {pre post : List AttrMeta} {am : AttrMeta} (hn : ((pre ++ am :: post).map (·.id)).Nodup) :
    (pre ++ am :: post).takeWhile (·.id != am.id) = pre := by
  rw [List.takeWhile_append_of_pos fun b hb => ?_]
  · simp
  · rw [List.map_append, List.map_cons, List.nodup_append] at hn
    simpa using hn.2.2 _ (List.mem_map.2 ⟨b, hb, rfl⟩) _ List.mem_cons_self

theorem tbl_get (hc : UniqueIds cfg) {l pre post : List AttrMeta} {am : AttrMeta} (hl : l = pre ++ am :: post)
    (hn : (l.map (·.id)).Nodup) {x : Item} (hx : x ∈ cfg.items) :
    (l.foldl (tblStep u cfg immune limited pen) []).get x.id am.id =
      some (valueOf u cfg immune limited pen (readDep u (pre.foldl (tblStep u cfg immune limited pen) [])) x am) := by
  subst hl
  rw [tbl_get_eq, item?_of_mem hc hx, find?_key_eq_some AttrMeta.id hn (List.mem_append_right _ List.mem_cons_self),
    takeWhile_split hn]
  rfl

theorem attrMeta?_of_mem (hun : UniqueAttrs u) {am : AttrMeta} (ham : am ∈ u.attrs) :
    attrMeta? u am.id = some am :=
  find?_key_eq_some AttrMeta.id hun ham

theorem read_evalAll (hun : UniqueAttrs u) (hc : UniqueIds cfg) {pre post : List AttrMeta} {am : AttrMeta}
    (hsplit : u.attrs = pre ++ am :: post) {x : Item} (hx : x ∈ cfg.items) :
    read (evalAll u cfg immune limited pen) x am.id =
      valueOf u cfg immune limited pen (readDep u (pre.foldl (tblStep u cfg immune limited pen) [])) x am := by
  unfold World.read
  split
  · rename_i hov
    rw [valueOf_eq]; unfold valueWith; rw [if_pos hov]; rfl
  · rw [evalAll_eq_foldl, tbl_get hc hsplit hun hx]; rfl

/-- `hov`: a skill's level is answered from the item even when attribute 280 has no metadata. -/
theorem read_no_meta {x : Item} {a : Int} (h : attrMeta? u a = none)
    (hov : ¬ (x.kind == .skill && a == 280) = true) :
    read (evalAll u cfg immune limited pen) x a = .absent := by
  unfold World.read
  rw [if_neg hov, evalAll_eq_foldl, tbl_get_eq, show u.attrs.find? (·.id == a) = none from h]
  cases item? cfg x.id <;> rfl

/-- The table of the attributes before `am` is a prefix of the whole table (`tbl_sub`), and a look-up that finds a row
there is not changed by the rows after it; rank well-formedness puts every row `am` reads there. -/
theorem readDep_prefix_eq_read (hwf : rankWF u = true) (hc : UniqueIds cfg)
    {pre post : List AttrMeta} {am : AttrMeta} (hsplit : u.attrs = pre ++ am :: post) {y : Item}
    (hy : y ∈ cfg.items) {b : Int} (hb : b ∈ readable u am) :
    readDep u (pre.foldl (tblStep u cfg immune limited pen) []) y b =
      read (evalAll u cfg immune limited pen) y b := by
  by_cases hov : (y.kind == .skill && b == 280) = true
  · unfold readDep World.read; rw [if_pos hov, if_pos hov]
  · unfold readDep
    rw [if_neg hov, tbl_get_eq, item?_of_mem hc hy]
    cases hm : attrMeta? u b with
    | none =>
      rw [read_no_meta hm hov, List.find?_eq_none.2 fun c hcp => List.find?_eq_none.1 hm c
        (hsplit ▸ List.mem_append_left _ hcp)]
      rfl
    | some _ =>
      obtain ⟨c, hcp, hid⟩ := List.mem_map.1 ((rankWF_iff u).1 hwf pre am post hsplit b hb (by rw [hm]; rfl))
      obtain ⟨rest, hrest⟩ := tbl_sub (u := u) (cfg := cfg) (immune := immune) (limited := limited) (pen := pen)
        pre (am :: post)
      unfold World.read
      rw [if_neg hov, evalAll_eq_foldl, hsplit, hrest, Table.get_append, tbl_get_eq, item?_of_mem hc hy]
      cases hf : pre.find? (·.id == b) with
      | none => exact absurd (by simpa using hid) (List.find?_eq_none.1 hf c hcp)
      | some _ => rfl

theorem evalAll_fix (hwf : rankWF u = true) (hun : UniqueAttrs u) (hc : UniqueIds cfg) {x : Item}
    (hx : x ∈ cfg.items) {am : AttrMeta} (ham : am ∈ u.attrs) :
    read (evalAll u cfg immune limited pen) x am.id =
      valueOf u cfg immune limited pen (read (evalAll u cfg immune limited pen)) x am := by
  obtain ⟨pre, post, hsplit⟩ := List.append_of_mem ham
  rw [read_evalAll hun hc hsplit hx]
  exact valueOf_congr fun y hy b hb => readDep_prefix_eq_read hwf hc hsplit (hy.elim (· ▸ hx) id) hb

end Eos.Micro
