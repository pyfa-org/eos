import EosProofs.Lemmas.DepCache
/-! The algorithmic skeleton of `MutableAttrMap` + `CalculationService`: values are computed on demand and cached; a
configuration change removes a set `R` of cached entries.  `Legal` spells out what the removed set has to satisfy
(exactly the hypotheses of `DepCache.inv_after_change`); everything observable is then a function of the current
configuration alone. -/
namespace Eos.Machine
open Eos.DepCache

variable {C N V : Type}

structure State (C N V : Type) where
  cfg : C
  cache : N → Option V

inductive Step (C N V : Type)
  /-- a public read: fills the (dependency-closed) set `S` with freshly calculated values -/
  | read (S : N → Bool)
  /-- a mutation: new configuration, `R` = cache entries the handlers remove -/
  | change (c' : C) (R : N → Bool)

def step (W : C → Graph N V) (s : State C N V) : Step C N V → State C N V
  | .read S => { s with cache := fun n => if S n then spec (W s.cfg) n else s.cache n }
  | .change c' R => { cfg := c', cache := restrict s.cache R }

def Step.isRead : Step C N V → Bool
  | .read _ => true
  | .change _ _ => false

def Legal (W : C → Graph N V) (s : State C N V) : Step C N V → Prop
  | .read S => ∀ n, S n = true → ∀ m, m ∈ (W s.cfg).deps n → spec (W s.cfg) m ≠ none →
      (S m = true ∨ s.cache m ≠ none)
  | .change c' R =>
    (∀ n, s.cache n ≠ none → R n = false →
        (W c').deps n = (W s.cfg).deps n ∧ ∀ f, (W c').eval n f = (W s.cfg).eval n f) ∧
    (∀ n, s.cache n ≠ none → R n = false → ∀ m, m ∈ (W c').deps n → R m = false) ∧
    (∀ n, s.cache n ≠ none → R n = false → ∀ m, m ∈ (W c').deps n →
        (spec (W s.cfg) m = none ↔ spec (W c') m = none))

/-- `L` is there for concrete graphs: it makes `hL` a finite check (`decide`). -/
theorem legal_read_of_closed (W : C → Graph N V) (s : State C N V) {S : N → Bool} (L : List N)
    (hS : ∀ n, S n = true → n ∈ L) (hL : ∀ n ∈ L, ∀ m ∈ (W s.cfg).deps n, S m = true) :
    Legal W s (.read S) :=
  fun n hn m hm _ => .inl (hL n (hS n hn) m hm)

def run (W : C → Graph N V) (s : State C N V) : List (Step C N V) → State C N V
  | [] => s
  | st :: rest => run W (step W s st) rest

def LegalRun (W : C → Graph N V) (s : State C N V) : List (Step C N V) → Prop
  | [] => True
  | st :: rest => Legal W s st ∧ LegalRun W (step W s st) rest

def Good (W : C → Graph N V) (s : State C N V) : Prop := Inv (W s.cfg) s.cache

theorem good_init (W : C → Graph N V) (c : C) : Good W { cfg := c, cache := fun _ => none } := by
  constructor
  · intro n v h; cases h
  · intro n h; exact absurd rfl h

theorem good_step (W : C → Graph N V) (s : State C N V) (st : Step C N V)
    (hg : Good W s) (hl : Legal W s st) : Good W (step W s st) := by
  cases st with
  | read S => exact inv_after_fill (W s.cfg) s.cache S hg hl
  | change c' R =>
    obtain ⟨h1, h2, h3⟩ := hl
    exact inv_after_change (W s.cfg) (W c') s.cache R hg h1 h2 h3

theorem good_run (W : C → Graph N V) : ∀ (steps : List (Step C N V)) (s : State C N V),
    Good W s → LegalRun W s steps → Good W (run W s steps)
  | [], _, hg, _ => hg
  | st :: rest, s, hg, hl => good_run W rest (step W s st) (good_step W s st hg hl.1) hl.2

/-- What a public read returns: the cached value if there is one, a fresh calculation otherwise. -/
def observe (W : C → Graph N V) (s : State C N V) (n : N) : Option V :=
  match s.cache n with
  | some v => some v
  | none => spec (W s.cfg) n

theorem observe_of_coh (W : C → Graph N V) (s : State C N V)
    (hc : ∀ n v, s.cache n = some v → spec (W s.cfg) n = some v) (n : N) : observe W s n = spec (W s.cfg) n := by
  unfold observe
  cases h : s.cache n with
  | none => rfl
  | some v => exact (hc n v h).symm

theorem observe_eq_spec (W : C → Graph N V) (s : State C N V) (hg : Good W s) (n : N) :
    observe W s n = spec (W s.cfg) n :=
  observe_of_coh W s hg.coh n

theorem observe_run_congr (W : C → Graph N V) {s s' : State C N V} (hg : Good W s) (hg' : Good W s')
    {steps steps' : List (Step C N V)} (hl : LegalRun W s steps) (hl' : LegalRun W s' steps')
    (hc : (run W s steps).cfg = (run W s' steps').cfg) (n : N) :
    observe W (run W s steps) n = observe W (run W s' steps') n := by
  rw [observe_eq_spec W _ (good_run W _ _ hg hl), observe_eq_spec W _ (good_run W _ _ hg' hl'), hc]

theorem cfg_step_read (W : C → Graph N V) (s : State C N V) (S : N → Bool) :
    (step W s (.read S)).cfg = s.cfg := rfl

end Eos.Machine

namespace Eos.C08
open Eos.DepCache Eos.Machine

variable {C N V : Type}

def cfgTrace : List (Step C N V) → List C
  | [] => []
  | .read _ :: rest => cfgTrace rest
  | .change c' _ :: rest => c' :: cfgTrace rest

theorem run_cfg (W : C → Graph N V) (steps : List (Step C N V)) (s : State C N V) :
    (run W s steps).cfg = ((cfgTrace steps).getLast?).getD s.cfg := by
  induction steps generalizing s with
  | nil => rfl
  | cons st rest ih =>
    cases st with
    | read S => exact ih _
    | change c' R => rw [run, ih, cfgTrace, List.getLast?_cons]; rfl

theorem cfgTrace_filter : ∀ steps : List (Step C N V), cfgTrace (steps.filter (fun st => !st.isRead)) = cfgTrace steps
  | [] => rfl
  | .read _ :: rest => cfgTrace_filter rest
  | .change c' _ :: rest => congrArg (c' :: ·) (cfgTrace_filter rest)

theorem _root_.Eos.Machine.cfg_run_filter (W : C → Graph N V) (steps : List (Step C N V)) (s : State C N V) :
    (run W s steps).cfg = (run W s (steps.filter (fun st => !st.isRead))).cfg := by
  rw [run_cfg, run_cfg, cfgTrace_filter]

end Eos.C08
