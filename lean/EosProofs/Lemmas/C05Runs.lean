import EosModel.World
import EosModel.EffectStatusSpec
import EosModel.EffectStatus
import EosProofs.Lemmas.C05Keys
/-! C05 ↔ world specification: `World.runsEffect` in the specification's vocabulary. It looks at the category
through `catState?` and at the item's state only through "is it at least the state of the effect's category"
(`runsEffect_eq`). -/
namespace Eos.C05World
open Eos.World Eos.EffectStatus

/-- State of an effect category id in the vocabulary of the specification (`Cat.state?`). -/
def catState? (c : Nat) : Option State := (Cat.ofNat? c).bind Cat.state?

/-- What full compliance looks at, read off the world's data. -/
def traitsOf (ty : ItemType) (e : Effect) : Traits :=
  ⟨ty.defaultEffect == some e.id, e.chanceAttr.isSome, e.id == 16⟩

/-- `decideStatus` with the state comparison abstracted: `Item.state` is a raw `Nat`, and the decision is also
    needed for item states that are no `State` (0, above 4). -/
def decideOf (high : Bool) (mode : ModeK) (es : State) (t : Traits) (o : Bool) : Bool :=
  match mode with
  | .full => high && fullExtra es t o
  | .stateC => high
  | .forceRun => true
  | _ => false

theorem decideStatus_eq_decideOf (st : State) (mode : ModeK) (es : State) (t : Traits) (o : Bool) :
    decideStatus st mode es t o = decideOf (es.le st) mode es t o := by cases mode <;> rfl

/-- The world's `categoryState` is the specification's `Cat.state?` (which `C05.category_state_map` proves equal
    to the code's `Effect.__effect_state_map`). -/
theorem categoryState_eq_spec (c : Nat) : categoryState c = (catState? c).map State.toNat := by
  rcases c with _ | _ | _ | _ | _ | _ | _ | _ | c <;> rfl

theorem catState?_eq_some {c : Nat} {es : State} :
    catState? c = some es ↔ categoryState c = some es.toNat := by
  rw [categoryState_eq_spec]
  cases h : catState? c with
  | none => simp
  | some es' =>
    simp only [Option.map_some, Option.some.injEq]
    exact ⟨congrArg _, C05.state_toNat_inj⟩

theorem runsEffect_eq (it : Item) (ty : ItemType) (e : Effect) (o : Bool) :
    runsEffect it ty e o = (catState? e.category).any fun es =>
      decideOf (decide (es.toNat ≤ it.state)) (ModeK.ofId (modeOf it e.id)) es (traitsOf ty e) o := by
  unfold runsEffect
  rw [categoryState_eq_spec]
  cases catState? e.category with
  | none => rfl
  | some es =>
    dsimp only [Option.map_some, Option.any_some, traitsOf]
    generalize modeOf it e.id = m
    rcases m with _ | _ | _ | _ | _ | m <;> try rfl
    -- full compliance: the chain of `if`s is "high enough, and what `fullExtra` asks for `es`"
    by_cases h : it.state < es.toNat
    · rw [if_pos h, decide_eq_false (Nat.not_le.2 h)]; rfl
    · rw [if_neg h, decide_eq_true (Nat.le_of_not_lt h)]
      cases es
      · exact (Option.not_isSome _).symm
      · cases e.id == 16 <;> rfl
      all_goals rfl

theorem ofId_of_not_mode {m : Nat} (h : ¬(1 ≤ m ∧ m ≤ 4)) : ModeK.ofId m = .unknown := by
  rcases m with _ | _ | _ | _ | _ | m <;> first | rfl | omega

theorem toNat_beq {a b : Int} (ha : 0 ≤ a) (hb : 0 ≤ b) : (a.toNat == b.toNat) = (a == b) := by
  rw [Bool.eq_iff_iff, beq_iff_eq, beq_iff_eq, ← Int.ofNat_inj, Int.toNat_of_nonneg ha, Int.toNat_of_nonneg hb]

theorem stateOfNat?_eq_some {n : Nat} {st : State} : State.ofNat? n = some st ↔ n = st.toNat := by
  constructor
  · intro h
    rcases n with _ | _ | _ | _ | _ | n <;> cases h <;> rfl
  · rintro rfl; exact C05.stateOfNat?_toNat st

theorem getMode_toModes (l : List (Int × Nat)) (i : Int) (hl : ∀ p ∈ l, 0 ≤ p.1) (hi : 0 ≤ i) :
    getMode (l.map fun p => (p.1.toNat, p.2)) i.toNat = ((l.find? (·.1 == i)).map (·.2)).getD 1 := by
  induction l with
  | nil => rfl
  | cons p ps ih =>
    have ih' := ih (fun q hq => hl q (by simp [hq]))
    unfold getMode at ih' ⊢
    simp only [List.map_cons, List.find?, toNat_beq (hl p (by simp)) hi]
    cases p.1 == i
    · exact ih'
    · rfl

/-- Traits and `onlineRuns` enter the decision through `fullExtra` only. -/
theorem decideStatus_congr {st : State} {m : ModeK} {es : State} {t t' : Traits} {o o' : Bool}
    (h : fullExtra es t o = fullExtra es t' o') : decideStatus st m es t o = decideStatus st m es t' o' := by
  cases m <;> simp only [decideStatus, h]

end Eos.C05World
