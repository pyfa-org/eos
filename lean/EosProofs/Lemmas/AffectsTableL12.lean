import EosGen.AffectsTableL12
namespace Eos.C02
open Eos.AffectsSpec EosGen.AffectsTable

theorem affects_blockL12_ok : localBlockOk blockL12 blockL12Cases blockL12Modified blockL12Valid = true := by decide +kernel

end Eos.C02
