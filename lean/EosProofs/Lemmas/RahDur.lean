import EosProofs.Lemmas.RahSim
/-! A single hardener's result does not depend on its (positive) cycle time (property C12): the received damage
of every cycle is scaled by a positive factor, and a shift only looks at its order and at which entries are zero
(`nextResos_congr`). The statement relates two runs, so `simulate_induct` (one run, a predicate of its outcome) does
not apply: the two runs go through the loop in lockstep, with `RelStep` / `RelStep.bind` as the two-run counterparts
of `Step` / `Step.bind`. -/
namespace Eos.Rah

def withDur (d' : Rat) (r : RS) : RS := { r with rah := { r.rah with dur := some d' } }

/-- `frag` is left out: `tickFrag` looks at `roundFrag (cyc + tp)`, at the cycle time and at the damage itself, which
    differ between the two runs. -/
def Out.core (o : Out) : List Vec × Bool × Nat := (o.resos, o.looped, o.ticks)

/-- States at a cycle boundary only: with one hardener every pass ends a cycle, so every state handed on is of this
    kind. -/
def SimRel (d d' : Rat) (s s' : Sim) : Prop :=
  ∃ r : RS, s.st = [r] ∧ s'.st = [withDur d' r] ∧ r.rah.dur = some d ∧ r.cyc = 0 ∧ (∀ t, r.dmg.get t = 0) ∧
    s'.seen = s.seen ∧ s'.ticks = s.ticks

def RelStep (R : Sim → Sim → Prop) : Option (Out ⊕ Sim) → Option (Out ⊕ Sim) → Prop
  | none, none => True
  | some (.inl o), some (.inl o') => o.core = o'.core
  | some (.inr s), some (.inr s') => R s s'
  | _, _ => False

theorem RelStep.bind {R : Sim → Sim → Prop} {x x' : Option (Out ⊕ Sim)} (h : RelStep R x x') {k k' : Sim → Option Out}
    (hk : ∀ s s', R s s' → (k s).map Out.core = (k' s').map Out.core) :
    (x.bind (Sum.elim some k)).map Out.core = (x'.bind (Sum.elim some k')).map Out.core := by
  unfold RelStep at h
  split at h
  · rfl
  · exact congrArg some h
  · exact hk _ _ h
  · exact h.elim

theorem advance_single {r : RS} {d : Rat} (hd : r.rah.dur = some d) (hc : r.cyc = 0) (hne : d ≠ 0) :
    advance [r] = some (d, [{ r with cyc := 0, cycled := true }]) := by
  obtain ⟨y, hy⟩ := sigRound_some hne sigDigits
  refine advance_eq_some.mpr ⟨[d], ?_, rfl, ?_⟩
  · simp [mapO_singleton, remaining, hd, hc]
  · simp [mapO_singleton, stepCycle, hd, hc, hy]

/- `htp`: the first pass of `simulate` (nobody cycled, no time passed) or a later one (cycle ended, positive times). -/
theorem shift_withDur (p ship : Vec) {tp tp' : Rat} (d' : Rat) {r1 : RS} (hdmg : ∀ t, r1.dmg.get t = 0)
    (htp : (r1.cycled = false ∧ tp = 0 ∧ tp' = 0) ∨ (r1.cycled = true ∧ 0 < tp ∧ 0 < tp')) :
    shiftIfCycled (accum p ship tp' (withDur d' r1)) = (shiftIfCycled (accum p ship tp r1)).map (withDur d') ∧
      ∀ y, shiftIfCycled (accum p ship tp r1) = some y → y.rah = r1.rah ∧ y.cyc = r1.cyc ∧ ∀ t, y.dmg.get t = 0 := by
  have hg : ∀ x t, (accum p ship x r1).dmg.get t = p.get t * ship.get t * x := fun x t => by
    rw [accum_dmg_get, hdmg t, zero_add]
  rcases htp with ⟨hc, rfl, rfl⟩ | ⟨hc, hp, hp'⟩
  · rw [shift_false (r := accum p ship 0 r1) hc, shift_false (r := accum p ship 0 (withDur d' r1)) hc]
    exact ⟨rfl, fun y hy => by cases hy; exact ⟨rfl, rfl, fun t => (hg 0 t).trans (mul_zero _)⟩⟩
  · cases hs : r1.rah.shift with
    | none =>
      rw [shift_none (r := accum p ship tp r1) hc hs, shift_none (r := accum p ship tp' (withDur d' r1)) hc hs]
      exact ⟨rfl, fun _ h => nomatch h⟩
    | some sh =>
      rw [shift_some (r := accum p ship tp r1) hc hs, shift_some (r := accum p ship tp' (withDur d' r1)) hc hs]
      refine ⟨?_, fun y hy => by cases hy; exact ⟨rfl, rfl, Vec.get_zero⟩⟩
      -- the damage received in `tp'` is ordered like that received in `tp`, and zero where that is
      have hsc := nextResos_congr (d1 := (accum p ship tp r1).dmg) (d2 := (accum p ship tp' r1).dmg)
        (fun a b => by rw [hg, hg, hg, hg, mul_le_mul_iff_left₀ hp', mul_le_mul_iff_left₀ hp])
        (fun t => by rw [hg, hg, mul_eq_zero_iff_right hp'.ne', mul_eq_zero_iff_right hp.ne']) r1.resos (sh / 100)
      exact congrArg some (congrArg (fun v => ({ accum p ship tp' (withDur d' r1) with resos := v, dmg := Vec.zero } : RS)) hsc)

theorem afterTick_single {env : Env} {b b' : List RS} {tp tp' d d' : Rat} {s s' : Sim} {r1 : RS}
    (hseen : s'.seen = s.seen) (hticks : s'.ticks = s.ticks) (hdur : r1.rah.dur = some d) (hcyc : r1.cyc = 0)
    (hdmg : ∀ t, r1.dmg.get t = 0)
    (htp : (r1.cycled = false ∧ tp = 0 ∧ tp' = 0) ∨ (r1.cycled = true ∧ 0 < tp ∧ 0 < tp')) :
    RelStep (SimRel d d') (afterTick env b tp s [r1]) (afterTick env b' tp' s' [withDur d' r1]) := by
  -- both runs ask the ship function the same question, shift to the same state up to `withDur`, hence compute the
  -- same key and look it up in the same history
  rw [afterTick_eq, afterTick_eq]
  change RelStep _ ((env.ship [r1.resos]).bind _) ((env.ship [r1.resos]).bind _)
  cases env.ship [r1.resos] with
  | none => trivial
  | some ship =>
    obtain ⟨hsh, hy⟩ := shift_withDur env.profile ship d' hdmg htp
    simp only [Option.bind_some, List.map_cons, List.map_nil, mapO_singleton, hsh]
    cases hx : shiftIfCycled (accum env.profile ship tp r1) with
    | none => trivial
    | some y =>
      obtain ⟨h1, h2, h3⟩ := hy y hx
      simp only [Option.map_some, Option.bind_some, mapO_singleton, show keyOf (withDur d' y) = keyOf y from rfl]
      cases keyOf y with
      | none => trivial
      | some k =>
        simp only [Option.map_some, hseen]
        cases s.seen.findIdx? (· == [k]) with
        | some i => exact Prod.ext rfl (Prod.ext rfl (congrArg (· + 1) hticks.symm))
        | none => exact ⟨snap y, rfl, rfl, h1 ▸ hdur, h2.trans hcyc, h3, rfl, congrArg (· + 1) hticks⟩

theorem noLoop_single {d d' : Rat} {s s' : Sim} (h : SimRel d d' s s') :
    (noLoop s).map Out.core = (noLoop s').map Out.core := by
  obtain ⟨r, hst, hst', hdur, _, _, hseen, hticks⟩ := h
  have hd' : (withDur d' r).rah.dur = some d' := rfl
  have he : exhaustion (withDur d' r).rah = exhaustion r.rah := rfl
  have hav : ∀ i, avgFrom i (withDur d' r) = avgFrom i r := fun _ => rfl
  have hsn : (withDur d' r).snaps = r.snaps := rfl
  simp only [noLoop, estimate, hst, hst', mapO_singleton, exhKey, hdur, hd', he, hseen, hticks]
  cases exhaustion r.rah with
  | none => rfl
  | some e =>
    by_cases hz : ((e : Rat) * 3 / 2).ceil = 0 <;>
      simp only [Option.map_some, argmaxFirst, hz, reduceIte, Out.core, List.map_cons, List.map_nil, hav, hsn]

theorem tick_single {env : Env} {d d' : Rat} (hd : 0 < d) (hd' : 0 < d') {s s' : Sim} (h : SimRel d d' s s') :
    RelStep (SimRel d d') (tick env s) (tick env s') := by
  obtain ⟨r, hst, hst', hdur, hcyc, hdmg, hseen, hticks⟩ := h
  rw [tick, tick, hst, hst', advance_single hdur hcyc hd.ne', advance_single (r := withDur d' r) rfl hcyc hd'.ne']
  exact afterTick_single (r1 := { r with cyc := 0, cycled := true }) hseen hticks hdur rfl hdmg (.inr ⟨rfl, hd, hd'⟩)

theorem simulate_single_dur {env : Env} {rah : Rah} {d d' : Rat} (hdur : rah.dur = some d) (hd : 0 < d)
    (hd' : 0 < d') (maxT : Nat) :
    (simulate env maxT [rah]).map Out.core = (simulate env maxT [{ rah with dur := some d' }]).map Out.core := by
  have hrun : ∀ n s s', SimRel d d' s s' → (run env n s).map Out.core = (run env n s').map Out.core := by
    intro n
    induction n with
    | zero => exact fun _ _ => noLoop_single
    | succ n ih => intro s s' h; rw [run_succ, run_succ]; exact (tick_single hd hd' h).bind ih
  have h0 : SimRel d d' (Sim.start [rah]) (Sim.start [{ rah with dur := some d' }]) :=
    ⟨RS.init rah, rfl, rfl, hdur, rfl, Vec.get_zero, rfl, rfl⟩
  cases maxT with
  | zero => exact noLoop_single h0
  | succ m =>
    rw [simulate_succ, simulate_succ]
    exact (afterTick_single (r1 := RS.init rah) rfl rfl hdur rfl Vec.get_zero (.inl ⟨rfl, rfl, rfl⟩)).bind (hrun m)

theorem getResults_single_dur {ship : Option (List Vec → Option Vec)} {p : Vec} {rah : Rah} {d d' : Rat}
    (hdur : rah.dur = some d) (hd : 0 < d) (hd' : 0 < d') (maxT : Nat) :
    (getResults ship p maxT [{ rah with dur := some d' }]).1 = (getResults ship p maxT [rah]).1 := by
  cases ship with
  | none => rfl
  | some f =>
    have e : ∀ x : Option Out, x.map (·.resos) = (x.map Out.core).map (·.1) := fun x => by cases x <;> rfl
    rw [getResults_fst, getResults_fst, e, e, simulate_single_dur hdur hd hd' maxT]; rfl

end Eos.Rah
