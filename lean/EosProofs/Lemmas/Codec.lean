import EosModel.Codec
import EosModel.Loader
import EosProofs.Lemmas.ListFacts
/-! JSON normalisation (`PV.norm`) commutes with every reader, decoder and storing step; `fill` (`__update_memory_cache`
    statement by statement) is `full` (the same method as a partial function) for every old memory.  To reason about
    `fill`, `load` or `updateCache` use `fill_eq`, `load_eq`, `full_norm`, `full_cacheData`.  Every fold below commutes
    by `foldlM_comm` (with `F := Dict.norm f`, `Mem.norm`, or the put-back `fun d => { m with effects := d }` of a loop that
    touches one storage), every list read by `mapM_comm`, every straight-line decoder by `bind_map_comm`. -/
namespace Eos.Codec
open PV

namespace PV
theorem normL_eq (l : List PV) : normL l = l.map norm := by
  induction l with
  | nil => simp [normL]
  | cons x xs ih => simp [normL, ih]

theorem normKV_eq (l : List (String × PV)) : normKV l = l.map fun p => (p.1, norm p.2) := by
  induction l with
  | nil => simp [normKV]
  | cons x xs ih => cases x; simp [normKV, ih]

@[simp] theorem norm_list (l : List PV) : norm (.list l) = .list (l.map norm) := by simp [norm, normL_eq]
@[simp] theorem norm_tuple (l : List PV) : norm (.tuple l) = .list (l.map norm) := by simp [norm, normL_eq]
@[simp] theorem norm_dict (kv) : norm (.dict kv) = .dict (kv.map fun p => (p.1, norm p.2)) := by simp [norm, normKV_eq]

@[simp] theorem norm_chr (c : Char) : (chr c).norm = chr c := rfl

@[simp] theorem truthy_norm (v : PV) : v.norm.truthy = v.truthy := by
  cases v <;> simp [norm, truthy, normL_eq, normKV_eq]

@[simp] theorem key?_norm (v : PV) : v.norm.key? = v.key? := by
  cases v <;> rfl

@[simp] theorem toInt?_norm (v : PV) : v.norm.toInt? = v.toInt? := by
  cases v <;> rfl

theorem iter?_norm (v : PV) : v.norm.iter? = v.iter?.map (List.map norm) := by
  cases v <;> simp [norm, iter?, normL_eq, normKV_eq, chr, Function.comp_def]

theorem index?_norm (v : PV) (n : Nat) : v.norm.index? n = (v.index? n).map norm := by
  cases v <;> simp only [norm, index?, normL_eq, List.getElem?_map, Option.map_none, Option.map_map]
  case str => rfl

theorem get?_norm (v : PV) (k : String) : v.norm.get? k = (v.get? k).map norm := by
  cases v <;> simp only [norm, get?, normKV_eq, List.find?_map, Option.map_map, Option.map_none, Function.comp_def]

theorem unpack2_norm (v : PV) : v.norm.unpack2 = v.unpack2.map fun p => (p.1.norm, p.2.norm) := by
  unfold unpack2
  rw [iter?_norm]
  rcases v.iter? with _ | l
  · simp
  · rcases l with _ | ⟨a, _ | ⟨b, _ | ⟨c, l⟩⟩⟩ <;> simp

theorem pairs?_norm (v : PV) : v.norm.pairs? = v.pairs?.map (List.map fun p => (p.1.norm, p.2.norm)) := by
  unfold pairs?
  rw [iter?_norm]
  cases v.iter? <;> simp [mapM_comm unpack2_norm]

end PV

namespace Dict
variable {α : Type}

theorem has_norm (f : α → α) (d : Dict α) (k : Key) : (Dict.norm f d).has k = d.has k := by
  simp [Dict.norm, has, List.any_map, Function.comp_def]

theorem find_norm (f : α → α) (d : Dict α) (k : Key) : (Dict.norm f d).find k = (d.find k).map f := by
  simp only [Dict.norm, find, List.find?_map, Function.comp_def, key?_norm]
  cases List.find? (fun p => p.1.key? == some k) d <;> simp

theorem set_norm (f : α → α) (d : Dict α) (k : PV) (v : α) :
    (Dict.norm f d).set k.norm (f v) = (d.set k v).map (Dict.norm f) := by
  simp only [set, key?_norm, has_norm]
  cases k.key?
  · rfl
  simp only [Dict.norm, Option.map_some, apply_ite (List.map _), List.map_append, List.map_map, Function.comp_def,
    key?_norm]
  congr 3; funext p; split <;> rfl

theorem ofPairs_norm (f : α → α) (l : List (PV × α)) :
    ofPairs (l.map fun p => (p.1.norm, f p.2)) = (ofPairs l).map (Dict.norm f) :=
  foldlM_comm (Dict.norm f) _ _ _ l (fun d p _ => set_norm f d p.1 p.2) []

end Dict

/-- The decoders are straight-line `do` blocks: one `bind_map_comm` per read. -/
theorem decompressModifier_norm (d : PV) : decompressModifier d.norm = (decompressModifier d).map Modifier.norm := by
  unfold decompressModifier
  iterate 8 refine bind_map_comm (index?_norm _ _) fun _ => ?_
  rfl

theorem decompressBuff_norm (d : PV) : decompressBuff d.norm = (decompressBuff d).map Buff.norm := by
  unfold decompressBuff
  iterate 6 refine bind_map_comm (index?_norm _ _) fun _ => ?_
  rfl

theorem decompressAttr_norm (d : PV) : decompressAttr d.norm = (decompressAttr d).map Attr.norm := by
  unfold decompressAttr
  iterate 5 refine bind_map_comm (index?_norm _ _) fun _ => ?_
  simp [Attr.norm]

theorem decompressEffect_norm (d : PV) : decompressEffect d.norm = (decompressEffect d).map Effect.norm := by
  unfold decompressEffect
  iterate 13 refine bind_map_comm (index?_norm _ _) fun _ => ?_
  refine bind_map_comm (iter?_norm _) fun _ => ?_
  refine bind_map_comm (mapM_comm decompressModifier_norm _) fun _ => ?_
  simp [Effect.norm]

theorem getEffect_norm (st : Dict Effect) (eid : PV) :
    getEffect (Dict.norm Effect.norm st) eid.norm = (getEffect st eid).map Effect.norm := by
  simp [getEffect, Dict.find_norm, Option.map_bind, Function.comp_def]

theorem getDefault_norm (st : Dict Effect) (x : PV) :
    getDefault (Dict.norm Effect.norm st) x.norm = (getDefault st x).map (Option.map Effect.norm) := by
  have h := getEffect_norm st x
  cases x <;> simp only [norm, getDefault] at h ⊢ <;> simp [h, Function.comp_def]

theorem abilityPair_norm (p : PV × PV) :
    abilityPair (p.1.norm, p.2.norm) = (abilityPair p).map fun q => (q.1.norm, q.2.norm) :=
  bind_map_comm (unpack2_norm _) fun _ => rfl

theorem effects_dict_norm (l : List Effect) :
    Dict.ofPairs (l.map fun e => (e.norm.id, e.norm))
      = (Dict.ofPairs (l.map fun e => (e.id, e))).map (Dict.norm Effect.norm) := by
  rw [← Dict.ofPairs_norm, List.map_map]; rfl

theorem decompressType_norm (st : Dict Effect) (d : PV) :
    decompressType (Dict.norm Effect.norm st) d.norm = (decompressType st d).map EType.norm := by
  simp only [decompressType, index?_norm, iter?_norm, pairs?_norm, getDefault_norm, Dict.ofPairs_norm,
    mapM_comm (getEffect_norm st), mapM_comm abilityPair_norm, effects_dict_norm,
    Option.map_bind, Option.bind_map, Function.comp_def, EType.norm, Option.bind_eq_bind, Option.map_some,
    List.map_map]

theorem stepEffect_norm (m : Mem) (d : PV) : stepEffect m.norm d.norm = (stepEffect m d).map Mem.norm :=
  bind_map_comm (decompressEffect_norm d) fun e =>
    bind_map_comm (Dict.set_norm Effect.norm m.effects e.id e) fun _ => rfl

theorem stepAttr_norm (m : Mem) (d : PV) : stepAttr m.norm d.norm = (stepAttr m d).map Mem.norm :=
  bind_map_comm (decompressAttr_norm d) fun a =>
    bind_map_comm (Dict.set_norm Attr.norm m.attrs a.id a) fun _ => rfl

theorem stepType_norm (m : Mem) (d : PV) : stepType m.norm d.norm = (stepType m d).map Mem.norm :=
  bind_map_comm (decompressType_norm m.effects d) fun t =>
    bind_map_comm (Dict.set_norm EType.norm m.types t.id t) fun _ => rfl

theorem addBuff_norm (s : Dict (List Buff)) (b : Buff) :
    addBuff (Dict.norm (List.map Buff.norm) s) b.norm = (addBuff s b).map (Dict.norm (List.map Buff.norm)) := by
  -- the key is the same after normalisation; the bucket read and the append commute with it
  refine bind_map_comm (nf := id) (show b.buffId.norm.key? = _ by rw [key?_norm, Option.map_id, id]) fun k => ?_
  rw [Dict.find_norm, ← Dict.set_norm]
  show (Dict.norm _ s).set b.buffId.norm _ = _
  congr 1; cases h : s.find k <;> simp [h]

theorem stepBuff_norm (m : Mem) (d : PV) : stepBuff m.norm d.norm = (stepBuff m d).map Mem.norm :=
  bind_map_comm (decompressBuff_norm d) fun b =>
    bind_map_comm (addBuff_norm m.buffs b) fun _ => rfl

theorem fillWith_comm (step : Mem → PV → Option Mem) (T : Mem → Mem)
    (h : ∀ m d, step (T m) d = (step m d).map T) (m : Mem) (ds : List PV) :
    fillWith step (T m) ds = (T (fillWith step m ds).1, (fillWith step m ds).2) := by
  induction ds generalizing m with
  | nil => rfl
  | cons d ds ih => simp only [fillWith, h]; cases step m d <;> simp [ih]

theorem loop_comm (j : PV) (key : String) (step : Mem → PV → Option Mem) (T : Mem → Mem)
    (h : ∀ m d, step (T m) d = (step m d).map T) (m : Mem) :
    loop j key step (T m) = (T (loop j key step m).1, (loop j key step m).2) := by
  simp only [loop]
  cases (j.get? key).bind iter? <;> simp [fillWith_comm step T h]

theorem stepEffect_setFp (f : PV) (m : Mem) (d : PV) : stepEffect (m.setFp f) d = (stepEffect m d).map (·.setFp f) := by
  simp only [stepEffect, Mem.setFp, Option.bind_eq_bind, Option.map_bind, Function.comp_def]
  congr 1
theorem stepType_setFp (f : PV) (m : Mem) (d : PV) : stepType (m.setFp f) d = (stepType m d).map (·.setFp f) := by
  simp only [stepType, Mem.setFp, Option.bind_eq_bind, Option.map_bind, Function.comp_def]
  congr 1
theorem stepAttr_setFp (f : PV) (m : Mem) (d : PV) : stepAttr (m.setFp f) d = (stepAttr m d).map (·.setFp f) := by
  simp only [stepAttr, Mem.setFp, Option.bind_eq_bind, Option.map_bind, Function.comp_def]
  congr 1
theorem stepBuff_setFp (f : PV) (m : Mem) (d : PV) : stepBuff (m.setFp f) d = (stepBuff m d).map (·.setFp f) := by
  simp only [stepBuff, Mem.setFp, Option.bind_eq_bind, Option.map_bind, Function.comp_def]
  congr 1

theorem fillWith_foldlM (step : Mem → PV → Option Mem) (m : Mem) (ds : List PV) :
    ds.foldlM step m = ok? (fillWith step m ds) := by
  induction ds generalizing m with
  | nil => simp [fillWith, ok?]
  | cons d ds ih => simp only [List.foldlM_cons, fillWith]; cases step m d <;> simp [ih, ok?]

theorem loopO_eq (j : PV) (key : String) (step : Mem → PV → Option Mem) (m : Mem) :
    loopO j key step m = ok? (loop j key step m) := by
  simp only [loopO, loop, Option.bind_eq_bind, ← Option.bind_assoc]
  cases (j.get? key).bind iter? <;> simp [fillWith_foldlM, ok?]

/-- When it raises, what survives of the old memory is the fingerprint only. -/
theorem fill_eq (m : Mem) (j : PV) :
    fill m j = match full j with
      | some r => (r, true)
      | none => ((fill Mem.empty j).1.setFp m.fingerprint, false) := by
  have hl := fun key step => loop_comm j key step (·.setFp m.fingerprint)
  simp only [fill, full, loopO_eq, show m.clearStorages = Mem.empty.setFp m.fingerprint from rfl,
    show Mem.empty.clearStorages = Mem.empty from rfl, hl _ _ (stepEffect_setFp _), hl _ _ (stepType_setFp _),
    hl _ _ (stepAttr_setFp _), hl _ _ (stepBuff_setFp _)]
  rcases loop j "effects" stepEffect Mem.empty with ⟨m1, _ | _⟩ <;> dsimp [ok?]
  rcases loop j "types" stepType m1 with ⟨m2, _ | _⟩ <;> dsimp
  rcases loop j "attrs" stepAttr m2 with ⟨m3, _ | _⟩ <;> dsimp
  rcases loop j "buff_templates" stepBuff m3 with ⟨m4, _ | _⟩ <;> dsimp
  cases j.get? "fingerprint" <;> rfl

theorem full_eq_some {j : PV} {m : Mem} (h : full j = some m) :
    ∃ m1 m2 m3 m4 fp, loopO j "effects" stepEffect Mem.empty = some m1 ∧ loopO j "types" stepType m1 = some m2 ∧
      loopO j "attrs" stepAttr m2 = some m3 ∧ loopO j "buff_templates" stepBuff m3 = some m4 ∧
      j.get? "fingerprint" = some fp ∧ m = { m4 with fingerprint := fp } := by
  simp only [full, Option.bind_eq_bind, Option.bind_eq_some_iff, Option.some.injEq] at h
  obtain ⟨m1, h1, m2, h2, m3, h3, m4, h4, fp, h5, rfl⟩ := h
  exact ⟨m1, m2, m3, m4, fp, h1, h2, h3, h4, h5, rfl⟩

theorem loopO_norm (j : PV) (key : String) (step : Mem → PV → Option Mem)
    (h : ∀ m d, step m.norm d.norm = (step m d).map Mem.norm) (m : Mem) :
    loopO j.norm key step m.norm = (loopO j key step m).map Mem.norm :=
  bind_map_comm (get?_norm j key) fun v => bind_map_comm (iter?_norm v) fun ds =>
    foldlM_comm Mem.norm norm step step ds (fun m d _ => h m d) m

theorem full_norm (j : PV) : full j.norm = (full j).map Mem.norm := by
  unfold full
  refine bind_map_comm (loopO_norm j _ _ stepEffect_norm Mem.empty) fun _ => ?_
  refine bind_map_comm (loopO_norm j _ _ stepType_norm _) fun _ => ?_
  refine bind_map_comm (loopO_norm j _ _ stepAttr_norm _) fun _ => ?_
  refine bind_map_comm (loopO_norm j _ _ stepBuff_norm _) fun _ => ?_
  exact bind_map_comm (get?_norm _ _) fun _ => rfl

theorem load_eq {β : Type} (parse : β → Option PV) (file : Option β) :
    Loader.load parse file = ((file.bind parse).bind full).getD Mem.empty := by
  cases file with
  | none => rfl
  | some b =>
    simp only [Loader.load, Option.bind_some]
    cases parse b with
    | none => rfl
    | some j => simp only [Option.bind_some]; rw [fill_eq]; cases full j <;> rfl

namespace Dict
variable {α : Type}

theorem has_false_of_not_mem (d : Dict α) (k : Key) (h : some k ∉ d.map fun p => p.1.key?) : d.has k = false := by
  simp only [has, List.any_eq_false, beq_iff_eq]
  intro p hp heq
  exact h (List.mem_map.mpr ⟨p, hp, heq⟩)

theorem set_new (d : Dict α) (p : PV × α) (k : Key) (hk : p.1.key? = some k)
    (h : some k ∉ d.map fun p => p.1.key?) : d.set p.1 p.2 = some (d ++ [p]) := by
  simp [set, hk, has_false_of_not_mem d k h]

theorem foldlM_set_wf (l acc : Dict α) (h : WF (acc ++ l)) :
    l.foldlM (fun (d : Dict α) p => d.set p.1 p.2) acc = some (acc ++ l) := by
  induction l generalizing acc with
  | nil => simp
  | cons p ps ih =>
    obtain ⟨hn, hs⟩ := h
    have hk : p.1.key? ≠ none := hs p (by simp)
    obtain ⟨kk, hkk⟩ := Option.ne_none_iff_exists'.mp hk
    have hnot : some kk ∉ acc.map fun p => p.1.key? := by
      rw [List.map_append, List.map_cons, List.nodup_append] at hn
      intro hmem
      exact hn.2.2 _ hmem _ List.mem_cons_self hkk.symm
    have hwf : WF ((acc ++ [p]) ++ ps) := by rw [List.append_assoc]; exact ⟨hn, hs⟩
    rw [List.foldlM_cons, set_new acc p kk hkk hnot]
    simpa [List.append_assoc] using ih (acc ++ [p]) hwf

theorem ofPairs_wf (d : Dict α) (h : WF d) : ofPairs d = some d := by
  simpa [ofPairs] using foldlM_set_wf d [] (by simpa using h)

end Dict

theorem decompress_compress_buff' (b : Buff) : decompressBuff (compressBuff b) = some b := rfl
theorem decompress_compress_attr' (a : Attr) : decompressAttr (compressAttr a) = some a := rfl

theorem decompress_compress_effect' (e : Effect) : decompressEffect (compressEffect e) = some e := by
  -- everything but the modifier list is read back from where it was put
  change (List.mapM decompressModifier (e.modifiers.map compressModifier)).bind
    (fun ms => some { e with modifiers := ms }) = some e
  rw [mapM_map_some compressModifier decompressModifier e.modifiers fun _ _ => rfl]; rfl

theorem pairs?_items (d : Dict PV) : (PV.tuple (d.map fun p => .tuple [p.1, p.2])).pairs? = some d := by
  simp only [pairs?, iter?, Option.bind_eq_bind, Option.bind_some]
  exact mapM_map_some _ _ d (fun x _ => rfl)

theorem abilities_pairs (d : Dict AbilityData) :
    (PV.tuple (d.map fun p => .tuple [p.1, .tuple [p.2.cooldownTime, p.2.chargeQuantity]])).pairs?
      = some (d.map fun p => (p.1, PV.tuple [p.2.cooldownTime, p.2.chargeQuantity])) := by
  simp only [pairs?, iter?, Option.bind_eq_bind, Option.bind_some]
  exact mapM_map_eq _ _ _ d (fun x _ => rfl)

theorem abilities_mapM (d : Dict AbilityData) :
    d.mapM (abilityPair ∘ fun p => (p.1, PV.tuple [p.2.cooldownTime, p.2.chargeQuantity])) = some d := by
  have := mapM_map_some (fun p : PV × AbilityData => (p.1, PV.tuple [p.2.cooldownTime, p.2.chargeQuantity]))
    abilityPair d (fun x _ => rfl)
  simpa [List.mapM_map] using this

theorem decompress_compress_type' (store : Dict Effect) (t : EType) (h : TypeOK store t) :
    decompressType store (compressType t) = some t := by
  have heffs : (t.effects.map (·.1)).mapM (getEffect store) = some (t.effects.map (·.2)) :=
    mapM_map_eq _ _ _ _ fun p hp => (h.effKeys p hp).2
  have hdict : (t.effects.map (·.2)).map (fun e => (e.id, e)) = t.effects := by
    rw [List.map_map]
    exact (List.map_congr_left fun p hp => by simp [← (h.effKeys p hp).1]).trans (List.map_id _)
  simp only [decompressType, compressType, index?, List.getElem?_cons_zero, List.getElem?_cons_succ, iter?,
    Option.bind_eq_bind, Option.bind_some, pairs?_items, heffs, hdict, abilities_pairs, abilities_mapM, List.mapM_map,
    Dict.ofPairs_wf _ h.attrs, Dict.ofPairs_wf _ h.effects, Dict.ofPairs_wf _ h.abilities, Dict.ofPairs_wf _ h.skills]
  -- what is left is the default effect: `None`, or an id that `get_effect` resolves to it
  have hdef := h.default
  obtain ⟨_, _, _, _, _, _ | e, _, _⟩ := t
  · rfl
  · show (getDefault store e.id).bind _ = _
    rw [hdef e rfl]; rfl

theorem foldlM_byId {α : Type} (id : α → PV) (l : List α) (d : Dict α) (hwf : Dict.WF (d ++ byId id l)) :
    l.foldlM (fun d x => d.set (id x) x) d = some (d ++ byId id l) := by
  rw [← Dict.foldlM_set_wf _ d hwf, byId, List.foldlM_map]

theorem foldlM_effects (l : List Effect) (m : Mem) (hwf : Dict.WF (m.effects ++ byId Effect.id l)) :
    (l.map compressEffect).foldlM stepEffect m = some { m with effects := m.effects ++ byId Effect.id l } :=
  (foldlM_comm (fun d => { m with effects := d }) compressEffect stepEffect (fun d x => d.set x.id x) l
    (fun d x _ => by simp [stepEffect, decompress_compress_effect']; cases d.set x.id x <;> rfl) m.effects).trans
    (by rw [foldlM_byId _ _ _ hwf]; rfl)

theorem foldlM_attrs (l : List Attr) (m : Mem) (hwf : Dict.WF (m.attrs ++ byId Attr.id l)) :
    (l.map compressAttr).foldlM stepAttr m = some { m with attrs := m.attrs ++ byId Attr.id l } :=
  (foldlM_comm (fun d => { m with attrs := d }) compressAttr stepAttr (fun d x => d.set x.id x) l
    (fun d x _ => by simp [stepAttr, decompress_compress_attr']; cases d.set x.id x <;> rfl) m.attrs).trans
    (by rw [foldlM_byId _ _ _ hwf]; rfl)

theorem foldlM_types (l : List EType) (m : Mem) (hok : ∀ t ∈ l, TypeOK m.effects t)
    (hwf : Dict.WF (m.types ++ byId EType.id l)) :
    (l.map compressType).foldlM stepType m = some { m with types := m.types ++ byId EType.id l } :=
  (foldlM_comm (fun d => { m with types := d }) compressType stepType (fun d x => d.set x.id x) l
    (fun d x hx => by
      simp [stepType, decompress_compress_type' _ x (hok x hx)]; cases d.set x.id x <;> rfl) m.types).trans
    (by rw [foldlM_byId _ _ _ hwf]; rfl)

theorem foldlM_buffs (l : List Buff) (m : Mem) :
    (l.map compressBuff).foldlM stepBuff m = (l.foldlM addBuff m.buffs).map fun s => { m with buffs := s } :=
  foldlM_comm (fun d => { m with buffs := d }) compressBuff stepBuff addBuff l
    (fun d x _ => by simp [stepBuff, decompress_compress_buff']; cases addBuff d x <;> rfl) m.buffs

theorem cacheData_effects (o : Objs) (fp : PV) : (cacheData o fp).get? "effects" = some (.list (o.effects.map compressEffect)) := by
  simp [cacheData, get?]
theorem cacheData_types (o : Objs) (fp : PV) : (cacheData o fp).get? "types" = some (.list (o.types.map compressType)) := by
  simp [cacheData, get?]
theorem cacheData_attrs (o : Objs) (fp : PV) : (cacheData o fp).get? "attrs" = some (.list (o.attrs.map compressAttr)) := by
  simp [cacheData, get?]
theorem cacheData_buffs (o : Objs) (fp : PV) : (cacheData o fp).get? "buff_templates" = some (.list (o.buffs.map compressBuff)) := by
  simp [cacheData, get?]
theorem cacheData_fp (o : Objs) (fp : PV) : (cacheData o fp).get? "fingerprint" = some fp := by
  simp [cacheData, get?]

theorem full_cacheData (o : Objs) (fp : PV) (h : Closed o) :
    full (cacheData o fp) = (groupBuffs o.buffs).map fun g =>
      ⟨byId EType.id o.types, byId Attr.id o.attrs, byId Effect.id o.effects, g, fp⟩ := by
  have he := foldlM_effects o.effects Mem.empty (by simpa [Mem.empty] using h.effectIds)
  have ht := foldlM_types o.types { Mem.empty with effects := Mem.empty.effects ++ byId Effect.id o.effects } h.types
    (by simpa [Mem.empty] using h.typeIds)
  simp only [full, loopO, cacheData_effects, cacheData_types, cacheData_attrs, cacheData_buffs, cacheData_fp, iter?,
    Option.bind_eq_bind, Option.bind_some, he, ht, foldlM_buffs]
  simp only [Mem.empty, List.nil_append] at *
  rw [foldlM_attrs o.attrs _ (by simpa using h.attrIds)]
  simp only [Option.bind_some, List.nil_append, groupBuffs]
  cases List.foldlM addBuff [] o.buffs <;> simp

theorem loopO_all_steps (j : PV) (key : String) (step : Mem → PV → Option Mem) (m m' : Mem)
    (h : loopO j key step m = some m') :
    ∃ ds, (j.get? key).bind iter? = some ds ∧ ∀ d ∈ ds, ∃ m₀, (step m₀ d).isSome := by
  simp only [loopO, Option.bind_eq_bind, Option.bind_eq_some_iff] at h
  obtain ⟨v, hg, ds, hi, h⟩ := h
  exact ⟨ds, by simp [hg, hi], foldlM_all_steps step ds m m' h⟩

theorem Layout.withTags_fst (bools effs : List String) (c : List (String × List Nat)) :
    (Layout.withTags bools effs c).map (fun r => (r.1, r.2.1)) = c := by
  rw [Layout.withTags, List.map_map]; exact List.map_id' _

theorem Layout.spec_nodup :
    ((Layout.modifierC.map (·.1)).Nodup ∧ (Layout.modifierC.map (·.2)).Nodup) ∧
    ((Layout.buffC.map (·.1)).Nodup ∧ (Layout.buffC.map (·.2)).Nodup) ∧
    ((Layout.attrC.map (·.1)).Nodup ∧ (Layout.attrC.map (·.2)).Nodup) ∧
    ((Layout.effectC.map (·.1)).Nodup ∧ (Layout.effectC.map (·.2)).Nodup) ∧
    ((Layout.typeC.map (·.1)).Nodup ∧ (Layout.typeC.map (·.2)).Nodup) := by decide +kernel

end Eos.Codec
