import EosGen.ResistTable08
namespace Eos.C02
open Eos.AffectsSpec EosGen.ResistTable

theorem resist_block08_ok : resistBlockOk blockR08 blockR08Cases blockR08Modified blockR08Valid = true := by
  decide +kernel

end Eos.C02
