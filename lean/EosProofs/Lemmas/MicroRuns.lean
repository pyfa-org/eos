import EosProofs.Lemmas.MicroAssembly
/-! Runs of messages.  `wrun`, `WRunOK` are defined in `MicroLegal`, `WRunOKE` in `MicroAssembly`.  Messages and level
changes only remove from the cache, and their side conditions only ask that nodes be *not* cached: both commute with
emptying the cache (`forget`). -/
namespace Eos.Micro.L
open Eos.World Eos.DepCache

variable {u : Universe}

/-- The four hypotheses are the defining equations of `run` and `OK`. -/
theorem runOK_append {σ α : Type} {step : σ → α → σ} {P : σ → α → Prop} {run : σ → List α → σ}
    {OK : σ → List α → Prop} (r0 : ∀ s, run s [] = s) (r1 : ∀ s a l, run s (a :: l) = run (step s a) l)
    (o0 : ∀ s, OK s []) (o1 : ∀ s a l, OK s (a :: l) ↔ P s a ∧ OK (step s a) l) :
    ∀ (l1 l2 : List α) (s : σ), OK s (l1 ++ l2) ↔ OK s l1 ∧ OK (run s l1) l2
  | [], l2, s => by rw [List.nil_append, r0]; exact ⟨fun h => ⟨o0 s, h⟩, fun h => h.2⟩
  | a :: l1, l2, s => by rw [List.cons_append, o1, o1, r1, runOK_append r0 r1 o0 o1 l1 l2, and_assoc]

def mrun (u : Universe) (s : MState) : List MStep → MState
  | [] => s
  | st :: rest => mrun u (mstep u s st) rest

def MRunOK (u : Universe) (P : MState → MStep → Prop) (s : MState) : List MStep → Prop
  | [] => True
  | st :: rest => P s st ∧ MRunOK u P (mstep u s st) rest

def MRunAll (u : Universe) (Q : MState → Prop) (s : MState) : List MStep → Prop
  | [] => Q s
  | st :: rest => Q s ∧ MRunAll u Q (mstep u s st) rest

theorem mrun_append (s : MState) (l1 l2 : List MStep) : mrun u s (l1 ++ l2) = mrun u (mrun u s l1) l2 := by
  induction l1 generalizing s with
  | nil => rfl
  | cons st l1 ih => exact ih (mstep u s st)

theorem mrunOK_append {P : MState → MStep → Prop} (s : MState) (l1 l2 : List MStep) :
    MRunOK u P s (l1 ++ l2) ↔ MRunOK u P s l1 ∧ MRunOK u P (mrun u s l1) l2 :=
  runOK_append (fun _ => rfl) (fun _ _ _ => rfl) (fun _ => trivial) (fun _ _ _ => Iff.rfl) l1 l2 s

theorem mrunOK_and {P P' : MState → MStep → Prop} : ∀ (l : List MStep) (s : MState),
    MRunOK u P s l → MRunOK u P' s l → MRunOK u (fun s st => P s st ∧ P' s st) s l
  | [], _, _, _ => trivial
  | _ :: rest, _, h, h' => ⟨⟨h.1, h'.1⟩, mrunOK_and rest _ h.2 h'.2⟩

theorem wrun_micro (W : Config × Dyn → Graph Node Rat) : ∀ (l : List MStep) (s : MState),
    wrun u W s (l.map .micro) = mrun u s l
  | [], _ => rfl
  | st :: rest, s => wrun_micro W rest (mstep u s st)

theorem wrunOK_micro (W : Config × Dyn → Graph Node Rat) : ∀ (l : List MStep) (s : MState),
    WRunOK u W s (l.map .micro) ↔ MRunOK u (fun s st => StepOK W s st ∧ StaticAround u W s st) s l
  | [], _ => Iff.rfl
  | st :: rest, s => and_congr Iff.rfl (wrunOK_micro W rest (mstep u s st))

theorem wrun_append (W : Config × Dyn → Graph Node Rat) (s : MState) (l1 l2 : List WStep) :
    wrun u W s (l1 ++ l2) = wrun u W (wrun u W s l1) l2 := by
  induction l1 generalizing s with
  | nil => rfl
  | cons st l1 ih => exact ih (wstep u W s st)

theorem wrunOK_append (W : Config × Dyn → Graph Node Rat) (s : MState) (l1 l2 : List WStep) :
    WRunOK u W s (l1 ++ l2) ↔ WRunOK u W s l1 ∧ WRunOK u W (wrun u W s l1) l2 :=
  runOK_append (fun _ => rfl) (fun _ _ _ => rfl) (fun _ => trivial) (fun _ _ _ => Iff.rfl) l1 l2 s

theorem wrunOKE_append {immune limited : List Int} {pen : Nat → Rat} (W : Config × Dyn → Graph Node Rat) (s : MState)
    (l1 l2 : List WStep) :
    WRunOKE u immune limited pen W s (l1 ++ l2) ↔
      WRunOKE u immune limited pen W s l1 ∧ WRunOKE u immune limited pen W (wrun u W s l1) l2 :=
  runOK_append (fun _ => rfl) (fun _ _ _ => rfl) (fun _ => trivial) (fun _ _ _ => Iff.rfl) l1 l2 s

theorem mrun_sub : ∀ (l : List MStep) (s : MState), Cascade.Sub s.cache (mrun u s l).cache
  | [], _ => Cascade.Sub.refl _
  | st :: l, s => (mstep_sub s st).trans (mrun_sub l _)

theorem mrunOK_of_inv {P : MState → MStep → Prop} (I : MState → Prop) : ∀ (l : List MStep) (s : MState), I s →
    (∀ s, I s → ∀ st ∈ l, P s st ∧ I (mstep u s st)) → MRunOK u P s l
  | [], _, _, _ => trivial
  | st :: rest, s, h0, h =>
    ⟨(h s h0 st List.mem_cons_self).1, mrunOK_of_inv I rest _ (h s h0 st List.mem_cons_self).2
      fun s hs st' hst' => h s hs st' (List.mem_cons_of_mem _ hst')⟩

theorem mrun_dyn : ∀ (l : List MStep) (s : MState), (mrun u s l).dyn = l.foldl dynStep s.dyn
  | [], _ => rfl
  | st :: l, s => (mrun_dyn l _).trans (congrArg (l.foldl dynStep) (mstep_dyn s st))

theorem mrun_cfg : ∀ (l : List MStep) (s : MState), (∀ st ∈ l, ∀ c, st ≠ .reconfig c) → (mrun u s l).cfg = s.cfg
  | [], _, _ => rfl
  | st :: l, s, h => by
    refine (mrun_cfg l _ fun st' h' => h st' (List.mem_cons_of_mem _ h')).trans ?_
    cases st with
    | reconfig c => exact absurd rfl (h _ List.mem_cons_self c)
    | _ => rfl

theorem mrun_inv_all {immune limited : List Int} {pen : Nat → Rat} {keep : Config → Node → Bool}
    {W : Config × Dyn → Graph Node Rat} (T : Ties u immune limited pen keep W) (hwf : rankWF u = true)
    (hun : UniqueAttrs u) (hR : ResistWF u) : ∀ (l : List MStep) (s : MState), MInv W s →
      MRunOK u (fun s st => StepOK W s st ∧ StaticAround u W s st) s l → MRunAll u (MInv W) s l
  | [], _, inv, _ => inv
  | st :: rest, _, inv, ok =>
    ⟨inv, mrun_inv_all T hwf hun hR rest _ (mstep_inv T hwf hun hR inv st ok.1.1 ok.1.2) ok.2⟩

theorem mrunAll_last {Q : MState → Prop} : ∀ (l : List MStep) (s : MState), MRunAll u Q s l → Q (mrun u s l)
  | [], _, h => h
  | _ :: rest, _, h => mrunAll_last rest _ h.2

theorem mrunOK_static_of_errorFree {immune limited : List Int} {pen : Nat → Rat} {keep : Config → Node → Bool}
    {W : Config × Dyn → Graph Node Rat} (T : Ties u immune limited pen keep W) : ∀ (l : List MStep) (s : MState),
    (∀ c ∈ wregs u W s (l.map .micro), ErrorFree u immune limited pen W c.1 c.2) → MRunOK u (StaticAround u W) s l
  | [], _, _ => trivial
  | st :: rest, s, h =>
    ⟨fun _ => ⟨staticAt_of_errorFree T (h _ List.mem_cons_self),
        staticAt_of_errorFree T (h _ (List.mem_cons_of_mem _ (wregs_head W _ (mstep u s st))))⟩,
      mrunOK_static_of_errorFree T rest _ fun c hc => h c (List.mem_cons_of_mem _ hc)⟩

def forget (s : MState) : MState := { s with cache := fun _ => none }

/-- What a message does to configuration and registers does not depend on the cache, and it caches nothing. -/
theorem mstep_forget (s : MState) (st : MStep) : mstep u (forget s) st = forget (mstep u s st) := by
  have hk : (mstep u (forget s) st).cache = fun _ => none :=
    funext fun n => Cascade.mono_none (mstep_sub (forget s) st).mono rfl
  cases st <;> exact congrArg (MState.mk _ _) hk

theorem wstep_forget (W : Config × Dyn → Graph Node Rat) (s : MState) {st : WStep} (hst : ∀ S, st ≠ .read S) :
    wstep u W (forget s) st = forget (wstep u W s st) := by
  cases st with
  | read S => exact absurd rfl (hst S)
  | micro st => exact mstep_forget s st
  | relevel cfg' i a =>
    show mstep u (mstep u (forget s) (.reconfig cfg')) (.changed i a) = _
    rw [mstep_forget, mstep_forget]; rfl

/-- The side conditions that mention the cache ask that certain nodes be *not* cached. -/
theorem wstepOKE_forget {immune limited : List Int} {pen : Nat → Rat} (W : Config × Dyn → Graph Node Rat) {s : MState}
    {st : WStep} (hst : ∀ S, st ≠ .read S) (ok : WStepOKE u immune limited pen W s st) :
    WStepOKE u immune limited pen W (forget s) st := by
  cases st with
  | read S => exact absurd rfl (hst S)
  | micro st =>
    refine ⟨?_, fun h => mstep_forget (u := u) s st ▸ ok.2 h⟩
    cases st with
    | load i => exact ⟨fun n hn => absurd rfl hn, ok.1.2⟩
    | reconfig cfg' => exact ⟨ok.1.1, ok.1.2.1, ok.1.2.2.1, fun n hn => absurd rfl hn⟩
    | _ => exact ok.1
  | relevel cfg' i a => exact ⟨ok.1, ok.2.1, ok.2.2.1, fun n hn => absurd rfl hn⟩

theorem wstep_read_cache (W : Config × Dyn → Graph Node Rat) (s : MState) (S : Node → Bool) (n : Node) :
    (wstep u W s (.read S)).cache n = if S n then spec (W (s.cfg, s.dyn)) n else s.cache n := rfl

end Eos.Micro.L
