import EosGen.FleetTable1
namespace Eos.C13
open Eos.AffectsSpec EosGen.FleetTable

theorem fleet_block1_ok : fleetBlockOk blockF1 blockF1Cases blockF1Boosted = true := by decide +kernel

end Eos.C13
