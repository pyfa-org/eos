import EosModel.WorldWF
import EosProofs.Lemmas.GatherNF
/-! What `EosModel/WorldWF.lean` promises.  `gatherReads` / `readable` list what `gather` / `valueOf` read: the value
depends on the reader at those attributes only (`gather_congr`, `valueOf_congr`) and an error outcome is an answer of
the reader at one of them (`valueOf_cases`).  With attributes listed in an order compatible with `readable`
(`rankWF`, as a proposition `rankWF_iff`) every row of `World.evalAll` is computed from rows already there, so the
table holds no `notWF` (`TableOK`, `evalAll_tableOK`; C10). -/
namespace Eos.World
open Eos.Calc

variable {u : Universe} {cfg : Config}

section reads
variable {attr : Int} {e : Effect}

theorem reads_resist {r : Int} (he : e ∈ u.effects) (hr : e.resistAttr = some r) (h0 : r ≠ 0)
    (hc : (e.mods.any (·.tgtAttr == attr) || (e.isBuff && u.buffs.any (·.tgtAttr == attr))) = true) :
    r ∈ gatherReads u attr := by
  unfold gatherReads
  refine List.mem_append_left _ (List.mem_append_right _ (List.mem_filterMap.2 ⟨e, he, ?_⟩))
  rw [if_pos hc, hr]; simp [h0]

theorem reads_buff {a : Int} (hany : u.buffs.any (·.tgtAttr == attr) = true) (h : a ∈ buffAttrs) :
    a ∈ gatherReads u attr := by
  unfold gatherReads; rw [if_pos hany]; exact List.mem_append_right _ h

theorem reads_mod {m : Modifier} (he : e ∈ u.effects) (hm : m ∈ e.mods) :
    m.srcAttr ∈ gatherReads u m.tgtAttr ∧ ∀ r, e.resistAttr = some r → r ≠ 0 → r ∈ gatherReads u m.tgtAttr := by
  refine ⟨?_, fun r hr h0 => reads_resist he hr h0 ?_⟩
  · unfold gatherReads
    simp only [List.mem_append, List.mem_flatMap, List.mem_map, List.mem_filter, beq_iff_eq]
    exact Or.inl (Or.inl ⟨e, he, m, ⟨hm, rfl⟩, rfl⟩)
  · rw [Bool.or_eq_true]
    exact Or.inl (List.any_eq_true.2 ⟨m, hm, beq_self_eq_true _⟩)

theorem reads_bspec {m : Modifier} (he : e ∈ u.effects) (hb : e.isBuff = true) (hok : Micro.bspecOK u m = true) :
    m.srcAttr ∈ gatherReads u m.tgtAttr ∧ ∀ r, e.resistAttr = some r → r ≠ 0 → r ∈ gatherReads u m.tgtAttr := by
  obtain ⟨_, hsrc, hany⟩ := Micro.bspecOK_iff.1 hok
  exact ⟨reads_buff hany hsrc, fun r hr h0 => reads_resist he hr h0 (by simp [hb, hany])⟩

end reads

theorem buffIdAttrs_sub : ∀ p ∈ buffIdAttrs, p ∈ buffAttrs := by decide

theorem selects_reads {rd : Reader} {x : Item} {tx : ItemType} {attr : Int} {a : Item} {e : Effect} {m : Modifier}
    (he : e ∈ u.effects) (hm : m.tgtAttr = attr) (hsel : Selects u cfg rd x tx a e m) :
    m.srcAttr ∈ gatherReads u attr ∧ ∀ r, e.resistAttr = some r → r ≠ 0 → r ∈ gatherReads u attr := by
  subst hm
  rcases hsel with ⟨hme, _⟩ | ⟨hme, _⟩ | ⟨hb, ⟨bms, hbm, hmb⟩ | ⟨hme, _⟩, _⟩
  · exact reads_mod he hme
  · exact reads_mod he hme
  · exact reads_bspec he hb (buffModifiers_ok hbm m hmb)
  · exact reads_mod he hme

theorem buffModifiers_congr {rd rd' : Reader} {a : Item} (h : ∀ p ∈ buffIdAttrs, rd a p = rd' a p) :
    buffModifiers u rd a = buffModifiers u rd' a := by
  unfold buffModifiers
  refine foldlM_congr_mem _ (fun acc p hp => ?_) _
  rw [h p.1 (List.mem_map.2 ⟨p, hp, rfl⟩)]

theorem gather_congr {immune : List Int} {rd rd' : Reader} {x : Item} {tx : ItemType} {attr : Int}
    (h : ∀ y, (y = x ∨ y ∈ cfg.items) → ∀ b ∈ gatherReads u attr, rd y b = rd' y b) :
    gather u cfg immune rd x tx attr = gather u cfg immune rd' x tx attr := by
  have hbms : ∀ a ∈ cfg.items, bmsW u rd attr a = bmsW u rd' attr a := fun a ha =>
    ite_congr rfl (fun hany => buffModifiers_congr fun p hp =>
      h a (Or.inr ha) p (reads_buff hany (buffIdAttrs_sub p hp))) fun _ => rfl
  have hat : gatherAtoms u cfg rd' x tx attr = gatherAtoms u cfg rd x tx attr :=
    flatMap_congr_mem fun a ha => flatMap_congr_mem fun e _ => by unfold effAtoms bmsOf; rw [hbms a ha]
  rw [gather_eq_atoms, gather_eq_atoms, hat]
  refine foldlM_congr_mem _ (fun acc t ht => ?_) _
  obtain ⟨a, ha, e, he, hte⟩ := mem_gatherAtoms.1 ht
  unfold stepS
  cases t with
  | buffs b =>
    obtain ⟨rfl, -⟩ := buffs_mem_effAtoms.1 hte
    rw [atomOut, atomOut, hbms b ha]
  | spec s =>
    obtain ⟨rfl, rfl, hm, hsel⟩ := spec_mem_effAtoms.1 ⟨_, hte⟩
    obtain ⟨hsrc, hres⟩ := selects_reads (runningEffects_mem he) hm hsel
    rw [atomOut, atomOut, specOut, specOut, h s.a (Or.inr ha) _ hsrc,
      resistOf_congr fun c r hr h0 hc => h c hc r (hres r hr h0)]

theorem valueOf_congr {immune limited : List Int} {pen : Nat → Rat} {rd rd' : Reader} {x : Item} {am : AttrMeta}
    (h : ∀ y, (y = x ∨ y ∈ cfg.items) → ∀ b ∈ readable u am, rd y b = rd' y b) :
    valueOf u cfg immune limited pen rd x am = valueOf u cfg immune limited pen rd' x am := by
  have hg : ∀ tx, gather u cfg immune rd x tx am.id = gather u cfg immune rd' x tx am.id := fun tx =>
    gather_congr fun y hy b hb => h y hy b (List.mem_append_right _ hb)
  have hcap : capOf rd x am = capOf rd' x am := by
    unfold capOf
    cases hm : am.maxAttr with
    | none => rfl
    | some mx => dsimp only; rw [h x (Or.inl rfl) mx (by simp [readable, hm])]
  rw [valueOf_eq, valueOf_eq, funext hg]; unfold valueWith
  rw [hcap]


def ReadAt (cfg : Config) (rd : Reader) (x : Item) (ids : List Int) (w : Val) : Prop :=
  ∃ y a, rd y a = w ∧ (y = x ∨ y ∈ cfg.items) ∧ a ∈ ids

theorem ReadAt.mono {rd : Reader} {x : Item} {ids ids' : List Int} {w : Val} (h : ∀ a ∈ ids, a ∈ ids') :
    ReadAt cfg rd x ids w → ReadAt cfg rd x ids' w :=
  fun ⟨y, a, h1, h2, h3⟩ => ⟨y, a, h1, h2, h a h3⟩

theorem gather_err_readAt {immune : List Int} {rd : Reader} {x : Item} {tx : ItemType} {attr : Int}
    {w : Val} (h : gather u cfg immune rd x tx attr = .error w) :
    ReadAt cfg rd x (gatherReads u attr) w := by
  obtain ⟨a, ha, e, he, t, hte, ho⟩ := gather_error h
  rcases (atomOut_error ho).2 with ⟨s, rfl, hs⟩ | ⟨b, rfl, hany, p, hp, hw⟩
  · obtain ⟨rfl, rfl, hm, hsel⟩ := spec_mem_effAtoms.1 ⟨_, hte⟩
    obtain ⟨hsrc, hres⟩ := selects_reads (runningEffects_mem he) hm hsel
    rcases hs with hs | ⟨c, r, hr, h0, hc, hs⟩
    · exact ⟨_, _, hs, Or.inr ha, hsrc⟩
    · exact ⟨c, r, hs, hc, hres r hr h0⟩
  · obtain ⟨rfl, -⟩ := buffs_mem_effAtoms.1 hte
    exact ⟨_, p, hw, Or.inr ha, reads_buff hany (buffIdAttrs_sub p hp)⟩

theorem capOf_err_readAt {rd : Reader} {x : Item} {am : AttrMeta} {w : Val}
    (h : capOf rd x am = .error w) : ReadAt cfg rd x am.maxAttr.toList w := by
  obtain ⟨-, mx, hmx, hr⟩ := capOf_error h
  exact ⟨x, mx, hr, Or.inl rfl, Option.mem_toList.2 hmx⟩

/-- Of a variable `w`: for a known value the cases that cannot be close by matching (`⟨⟩`). -/
theorem valueOf_cases {immune limited : List Int} {pen : Nat → Rat} {rd : Reader} {x : Item} {am : AttrMeta} {w : Val}
    (h : valueOf u cfg immune limited pen rd x am = w) :
    (∃ v, w = .ok v) ∨ w = .absent ∨ ReadAt cfg rd x (readable u am) w ∨
    (w = .divZero ∧
      ∃ tx b mods cap, itemType? u cfg x = some tx ∧ baseOf tx am = some b ∧
        gather u cfg immune rd x tx am.id = .ok mods ∧ capOf rd x am = .ok cap ∧
        calculate pen am.stackable am.hig b mods cap (limited.contains am.id) = .error .divZero) := by
  subst h
  rw [valueOf_eq]; unfold valueWith
  cases x.kind == .skill && am.id == 280 with
  | true =>
    cases x.level
    · exact Or.inr (Or.inl rfl)
    · exact Or.inl ⟨_, rfl⟩
  | false =>
    cases ht : itemType? u cfg x with
    | none => exact Or.inr (Or.inl rfl)
    | some tx =>
      dsimp only
      cases hb : baseOf tx am with
      | none => exact Or.inr (Or.inl rfl)
      | some b =>
        cases hg : gather u cfg immune rd x tx am.id with
        | error w =>
          exact Or.inr (Or.inr (Or.inl ((gather_err_readAt hg).mono fun a ha => List.mem_append_right _ ha)))
        | ok mods =>
          cases hc : capOf rd x am with
          | error w =>
            exact Or.inr (Or.inr (Or.inl ((capOf_err_readAt hc).mono fun a ha => List.mem_append_left _ ha)))
          | ok cap =>
            dsimp only
            cases hcalc : calculate pen am.stackable am.hig b mods cap (limited.contains am.id) with
            | ok v => exact Or.inl ⟨v, rfl⟩
            | error e =>
              cases e
              exact Or.inr (Or.inr (Or.inr ⟨rfl, tx, b, mods, cap, rfl, hb, hg, rfl, hcalc⟩))

theorem rankWFAux_iff (u : Universe) (rest : List AttrMeta) : ∀ pre : List Int,
    rankWFAux u pre rest = true ↔
      ∀ p am post, rest = p ++ am :: post → ∀ a ∈ readable u am, (attrMeta? u a).isSome = true →
        a ∈ p.map (·.id) ∨ a ∈ pre := by
  induction rest with
  | nil => simp only [rankWFAux, List.nil_eq_append_iff, reduceCtorEq, and_false, false_imp_iff, implies_true]
  | cons am rest ih =>
    intro pre
    rw [rankWFAux, Bool.and_eq_true, ih, forall_split_cons, List.all_eq_true]
    refine and_congr (forall₂_congr fun a _ => ?_) (forall₃_congr fun p am' post => imp_congr_right fun _ =>
      forall₂_congr fun a _ => imp_congr_right fun _ => ?_)
    · cases attrMeta? u a <;> simp
    · rw [List.map_cons, List.mem_cons, List.mem_cons, or_assoc, or_left_comm]

theorem rankWF_iff (u : Universe) : rankWF u = true ↔ RankWF u := by
  unfold rankWF RankWF
  simp only [rankWFAux_iff, List.not_mem_nil, or_false]

def TableOK (cfg : Config) (ids : List Int) (t : Table) : Prop :=
  (∀ entry ∈ t, entry.2 ≠ .notWF) ∧ ∀ x ∈ cfg.items, ∀ a ∈ ids, ∃ entry ∈ t, entry.1 = (x.id, a)

theorem Table.get_mem {t : Table} {i : Nat} {a : Int} {v : Val} (h : t.get i a = some v) :
    ∃ entry ∈ t, entry.2 = v := by
  unfold Table.get at h
  obtain ⟨entry, he, rfl⟩ := Option.map_eq_some_iff.1 h
  exact ⟨entry, List.mem_of_find?_eq_some he, rfl⟩

theorem Table.get_append (t b : Table) (i : Nat) (a : Int) : (t ++ b).get i a = (t.get i a).or (b.get i a) := by
  unfold Table.get
  rw [List.find?_append]
  cases t.find? _ <;> rfl

theorem Table.get_none {t : Table} {i : Nat} {a : Int} (h : t.get i a = none) :
    ∀ entry ∈ t, entry.1 ≠ (i, a) := by
  unfold Table.get at h
  rw [Option.map_eq_none_iff, List.find?_eq_none] at h
  intro entry he heq
  exact h entry he (by simp [heq])

theorem readDep_ne_notWF {ids : List Int} {t : Table} (hok : TableOK cfg ids t) {y : Item}
    (hy : y ∈ cfg.items) {a : Int} (ha : (attrMeta? u a).isSome = true → a ∈ ids) :
    readDep u t y a ≠ .notWF := by
  unfold readDep
  split
  · cases y.level <;> simp
  · cases hg : t.get y.id a with
    | some v =>
      obtain ⟨entry, he, rfl⟩ := Table.get_mem hg
      exact hok.1 entry he
    | none =>
      dsimp only
      split
      · rename_i hsome
        obtain ⟨entry, he, hk⟩ := hok.2 y hy a (ha hsome)
        exact absurd hk (Table.get_none hg entry he)
      · simp

theorem valueOf_ne_notWF {ids : List Int} {t : Table} (hok : TableOK cfg ids t)
    (immune limited : List Int) (pen : Nat → Rat) {x : Item} (hx : x ∈ cfg.items) (am : AttrMeta)
    (hwf : ∀ a ∈ readable u am, (attrMeta? u a).isSome = true → a ∈ ids) :
    valueOf u cfg immune limited pen (readDep u t) x am ≠ .notWF := by
  intro hv
  obtain ⟨_, ⟨⟩⟩ | ⟨⟨⟩⟩ | ⟨y, a, hr, hy, ha⟩ | ⟨⟨⟩, _⟩ := valueOf_cases hv
  exact readDep_ne_notWF hok (hy.elim (fun e => e ▸ hx) id) (hwf a ha) hr

theorem evalAll_step {ids : List Int} {t : Table} (hok : TableOK cfg ids t)
    (immune limited : List Int) (pen : Nat → Rat) (am : AttrMeta)
    (hwf : ∀ a ∈ readable u am, (attrMeta? u a).isSome = true → a ∈ ids) :
    TableOK cfg (ids ++ [am.id])
      (t ++ cfg.items.map fun x => ((x.id, am.id), valueOf u cfg immune limited pen (readDep u t) x am)) := by
  refine ⟨fun entry he => ?_, fun x hx a ha => ?_⟩
  · rcases List.mem_append.1 he with he | he
    · exact hok.1 entry he
    · obtain ⟨x, hx, rfl⟩ := List.mem_map.1 he
      exact valueOf_ne_notWF hok immune limited pen hx am hwf
  · rcases List.mem_append.1 ha with ha | ha
    · obtain ⟨entry, he, hk⟩ := hok.2 x hx a ha
      exact ⟨entry, List.mem_append_left _ he, hk⟩
    · rw [List.mem_singleton] at ha; subst ha
      exact ⟨_, List.mem_append_right _ (List.mem_map.2 ⟨x, hx, rfl⟩), rfl⟩

theorem evalAll_fold (hwf : RankWF u) (immune limited : List Int) (pen : Nat → Rat) (rest : List AttrMeta) :
    ∀ (pre : List AttrMeta) (t : Table), u.attrs = pre ++ rest → TableOK cfg (pre.map (·.id)) t →
      TableOK cfg ((pre ++ rest).map (·.id))
        (rest.foldl (fun t am => t ++ cfg.items.map fun x =>
          ((x.id, am.id), valueOf u cfg immune limited pen (readDep u t) x am)) t) := by
  induction rest with
  | nil => intro pre t _ hok; rwa [List.append_nil]
  | cons am rest ih =>
    intro pre t hsplit hok
    rw [List.foldl_cons]
    have hstep := evalAll_step hok immune limited pen am (hwf pre am rest hsplit)
    have := ih (pre ++ [am]) _ (by simp [hsplit]) (by rw [List.map_append]; exact hstep)
    rwa [List.append_assoc] at this

theorem evalAll_tableOK (hwf : RankWF u) (immune limited : List Int) (pen : Nat → Rat) :
    TableOK cfg (u.attrs.map (·.id)) (evalAll u cfg immune limited pen) := by
  have := evalAll_fold (cfg := cfg) hwf immune limited pen u.attrs [] [] rfl
    ⟨fun _ h => (by cases h), fun _ _ _ h => (by cases h)⟩
  simpa [evalAll] using this

theorem read_ne {t : Table} {w : Val} (hw : IsErr w) (h : ∀ entry ∈ t, entry.2 ≠ w) (x : Item) (a : Int) :
    read t x a ≠ w := by
  unfold read
  split
  · cases x.level <;> rcases hw with rfl | rfl <;> simp
  · cases hg : t.get x.id a with
    | some v => obtain ⟨entry, he, rfl⟩ := Table.get_mem hg; exact h entry he
    | none => rcases hw with rfl | rfl <;> simp

/-! ## Example universes for the non-vacuity examples of `Props/C10`

`wfUniverse`: attribute 10 feeds 20 (`post_mul`), 20 feeds 30 (`mod_add`), 30 is capped by 10; listed
in rank order.  `cyclicUniverse`: 10 feeds 20 and 20 feeds 10.  Both carried by one ship type whose
passive effect 1000 holds the (item, self) modifiers. -/
def wfUniverse : Universe :=
  { attrs := [⟨10, none, none, true, true⟩, ⟨20, none, none, true, true⟩, ⟨30, some 10, none, true, true⟩],
    effects := [⟨1000, 0, none, none, false,
      [⟨1, 1, none, 20, 6, 1, none, 10⟩, ⟨1, 1, none, 30, 4, 1, none, 20⟩]⟩],
    types := [⟨1, none, some 6, none, [(10, 3), (20, 2), (30, 1)], [1000], []⟩] }
def cyclicUniverse : Universe :=
  { attrs := [⟨10, none, none, true, true⟩, ⟨20, none, none, true, true⟩],
    effects := [⟨1000, 0, none, none, false,
      [⟨1, 1, none, 20, 6, 1, none, 10⟩, ⟨1, 1, none, 10, 6, 1, none, 20⟩]⟩],
    types := [⟨1, none, some 6, none, [(10, 3), (20, 2)], [1000], []⟩] }
def oneShipConfig : Config :=
  { hasSource := true, fits := [⟨0, some 1, none, none⟩],
    items := [⟨1, .ship, 1, 0, 1, none, none, none, []⟩] }

end Eos.World
