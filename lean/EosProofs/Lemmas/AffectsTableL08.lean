import EosGen.AffectsTableL08
namespace Eos.C02
open Eos.AffectsSpec EosGen.AffectsTable

theorem affects_blockL08_ok : localBlockOk blockL08 blockL08Cases blockL08Modified blockL08Valid = true := by decide +kernel

end Eos.C02
