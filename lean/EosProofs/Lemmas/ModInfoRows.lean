import EosProofs.Lemmas.ModInfo
import EosGen.ModInfoTable
namespace Eos.ModInfo

theorem rows_ok : rowsOk EosGen.ModInfoTable.rows = true := by
  have h : (EosGen.ModInfoTable.rows.flatMap unpack).all C19.rowOkLit = true := by decide +kernel
  rwa [C19.rowOkLit_eq] at h

end Eos.ModInfo
