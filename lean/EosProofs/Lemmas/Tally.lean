/-! A table that is checked block by block: `Tally P f g l n k v` says that the list of cases `l` has `n`
members, all satisfying `P`, of which `k` pass `f` and `v` pass `g` (the two counters of the selection tables:
"modified" cases and cases with a valid modifier; a table with one counter leaves the second empty).  It is additive
over the blocks of a `flatMap`, so one application per block puts a whole table together, and the totals are
compared by evaluating numerals only.  (Rewriting with the per-block counts leaves terms like
`(casesOf b).length + _` in the proof, and the kernel evaluates the arguments of `Nat.add`: the whole block once
more.) -/
namespace Eos

variable {ρ κ : Type} {P : κ → Prop} {f g : κ → Bool}

structure Tally (P : κ → Prop) (f g : κ → Bool) (l : List κ) (n k v : Nat) : Prop where
  all : ∀ c ∈ l, P c
  length : l.length = n
  countF : l.countP f = k
  countG : l.countP g = v

namespace Tally

theorem nil (casesOf : ρ → List κ) : Tally P f g (([] : List ρ).flatMap casesOf) 0 0 0 :=
  ⟨fun _ h => (nomatch h), rfl, rfl, rfl⟩

theorem cons {casesOf : ρ → List κ} {b : ρ} {bs : List ρ} {n k v n' k' v' : Nat}
    (h : Tally P f g (casesOf b) n k v) (hs : Tally P f g (bs.flatMap casesOf) n' k' v') :
    Tally P f g ((b :: bs).flatMap casesOf) (n + n') (k + k') (v + v') := by
  obtain ⟨hP, rfl, rfl, rfl⟩ := h
  obtain ⟨hP', rfl, rfl, rfl⟩ := hs
  rw [List.flatMap_cons]
  exact ⟨fun c hc => (List.mem_append.1 hc).elim (hP c) (hP' c), List.length_append, List.countP_append,
    List.countP_append⟩

theorem map {α : Type} {l : List α} {mk : α → κ} (s : α → Bool) (v : Bool) (hP : ∀ a ∈ l, P (mk a))
    (hf : ∀ a ∈ l, f (mk a) = s a) (hg : ∀ a ∈ l, g (mk a) = v) :
    Tally P f g (l.map mk) l.length (l.filter s).length (if v then l.length else 0) := by
  refine ⟨List.forall_mem_map.2 hP, List.length_map _, ?_, ?_⟩
  · rw [List.countP_map, List.countP_congr fun a ha => by rw [Function.comp_apply, hf a ha],
      List.countP_eq_length_filter]
  · rw [List.countP_map, List.countP_congr (q := fun _ => v) fun a ha => by rw [Function.comp_apply, hg a ha]]
    cases v <;> simp

end Tally
end Eos
