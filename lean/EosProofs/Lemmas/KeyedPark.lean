import EosProofs.Lemmas.Keyed
/-! The parking register of `affection.py` (`AffReg`): a well-formed register is `park ship b` for the set `b` of
    specs it holds — all of them in one bucket, under the ship if there is one and under the fit key if not, and no
    dict entry at all when `b` is empty.  Every operation takes a `park` to a `park`. -/
namespace Eos.Keyed

def single (k : Nat) (b : List Nat) : Store := if b.isEmpty then [] else [(k, b)]

theorem single_nil (k : Nat) : single k [] = [] := rfl
theorem single_of_ne_nil {k : Nat} {b : List Nat} (h : b ≠ []) : single k b = [(k, b)] :=
  if_neg (by simpa using h)

theorem eq_single {s : Store} {k : Nat} (hi : Inv s) (hn : NoEmpty s) (hk : ∀ k' ∈ keys s, k' = k) :
    s = single k (bucket s k) := by
  cases s with
  | nil => rfl
  | cons p s =>
    obtain ⟨a, b⟩ := p
    obtain rfl : a = k := hk a (mem_keys_cons.2 (.inl rfl))
    obtain ⟨ha, -, -⟩ := inv_cons.1 hi
    cases s with
    | nil => rw [bucket_cons, if_pos rfl, single_of_ne_nil (noEmpty_cons.1 hn).1]
    | cons q s => exact absurd (hk q.1 (List.mem_cons_of_mem _ List.mem_cons_self) ▸ mem_keys_cons.2 (.inl rfl)) ha

theorem bucket_single (k : Nat) (b : List Nat) : bucket (single k b) k = b := by
  cases b with
  | nil => rfl
  | cons x b => exact if_pos rfl

theorem addWith_single {g : List Nat → List Nat} {k : Nat} {b : List Nat} (hg : g b ≠ []) :
    addWith g (single k b) k = single k (g b) := by
  rw [single_of_ne_nil hg]
  cases b with
  | nil => rfl
  | cons x b => rw [single_of_ne_nil (List.cons_ne_nil x b), addWith, if_pos rfl]

theorem rmWith_single {g : List Nat → List Nat} {k : Nat} {b : List Nat} (hg : g [] = []) :
    rmWith g (single k b) k = single k (g b) := by
  cases b with
  | nil => rw [hg]; rfl
  | cons x b => rw [single_of_ne_nil (List.cons_ne_nil x b), rmWith, if_pos rfl]; rfl

def AffReg.Shape (r : AffReg) : Prop :=
  match r.ship with
  | some s => r.awaiting = [] ∧ ∀ k ∈ keys r.active, k = s
  | none => r.active = [] ∧ ∀ k ∈ keys r.awaiting, k = 0

def AffReg.WF (r : AffReg) : Prop :=
  Inv r.awaiting ∧ Inv r.active ∧ NoEmpty r.awaiting ∧ NoEmpty r.active ∧ r.Shape

/-- the specs the register holds (what `get_affector_specs(ship)` would find, or what waits for a ship) -/
def AffReg.held (r : AffReg) (x : Nat) : Prop :=
  match r.ship with
  | some s => x ∈ bucket r.active s
  | none => x ∈ bucket r.awaiting 0

def park : Option Nat → List Nat → AffReg
  | none, b => { ship := none, awaiting := single 0 b, active := [] }
  | some s, b => { ship := some s, awaiting := [], active := single s b }

theorem wf_single {k : Nat} {b : List Nat} (hb : b.Nodup) :
    Inv (single k b) ∧ NoEmpty (single k b) ∧ ∀ k' ∈ keys (single k b), k' = k := by
  cases b with
  | nil => exact ⟨inv_nil, noEmpty_nil, fun _ h => nomatch h⟩
  | cons x b =>
    rw [single_of_ne_nil (List.cons_ne_nil x b)]
    exact ⟨inv_cons.2 ⟨(fun h => nomatch h), hb, inv_nil⟩, noEmpty_cons.2 ⟨List.cons_ne_nil x b, noEmpty_nil⟩, by simp [keys]⟩

theorem wf_park (ship : Option Nat) {b : List Nat} (hb : b.Nodup) : (park ship b).WF := by
  obtain ⟨h1, h2, h3⟩ := wf_single (k := ship.getD 0) hb
  cases ship with
  | none => exact ⟨h1, inv_nil, h2, noEmpty_nil, rfl, h3⟩
  | some s => exact ⟨inv_nil, h1, noEmpty_nil, h2, rfl, h3⟩

theorem AffReg.WF.eq_park {r : AffReg} (h : r.WF) : ∃ b, b.Nodup ∧ r = park r.ship b := by
  obtain ⟨ship, aw, act⟩ := r
  obtain ⟨h1, h2, h3, h4, h5⟩ := h
  cases ship with
  | none =>
    obtain ⟨rfl, hk⟩ : act = [] ∧ _ := h5
    exact ⟨_, nodup_bucket h1.2, by rw [park, ← eq_single h1 h3 hk]⟩
  | some s =>
    obtain ⟨rfl, hk⟩ : aw = [] ∧ _ := h5
    exact ⟨_, nodup_bucket h2.2, by rw [park, ← eq_single h2 h4 hk]⟩

theorem held_park (ship : Option Nat) (b : List Nat) (x : Nat) : (park ship b).held x ↔ x ∈ b := by
  cases ship <;> simp [park, AffReg.held, bucket_single]

theorem regSpec_park (ship : Option Nat) (b : List Nat) (x : Nat) :
    (park ship b).regSpec x = park ship (insertNew b x) := by
  cases ship <;> simp only [park, AffReg.regSpec, addEntry_eq, addWith_single (g := (insertNew · x)) insertNew_ne_nil]

theorem unregSpec_park (ship : Option Nat) (b : List Nat) (x : Nat) :
    (park ship b).unregSpec x = park ship (b.erase x) := by
  cases ship <;> simp only [park, AffReg.unregSpec, rmEntry_eq, rmWith_single (g := (·.erase x)) (List.erase_nil x)]

/-- A set moves between the two stores as it is: `add_data_set` on a missing key stores `union [] b`, which is `b`
    for a set. -/
theorem addSet_nil {k : Nat} {b : List Nat} (hb : b.Nodup) : addSet [] k b = [(k, b)] := by
  rw [addSet, union_eq_append (b := []) hb, List.nil_append]

theorem regShip_park {b : List Nat} (hb : b.Nodup) (s : Nat) : (park none b).regShip s = park (some s) b := by
  cases b with
  | nil => rfl
  | cons x b =>
    simp only [park, AffReg.regShip, bucket_single, List.isEmpty_cons, Bool.false_eq_true, if_false,
      rmSet_eq, rmWith_single (g := (diff · (x :: b))) rfl, diff_self, single_nil, addSet_nil hb]
    rfl

theorem unregShip_park {b : List Nat} (hb : b.Nodup) (s : Nat) : (park (some s) b).unregShip = park none b := by
  cases b with
  | nil => rfl
  | cons x b =>
    simp only [park, AffReg.unregShip, single_of_ne_nil (List.cons_ne_nil x b), keys, List.map_cons, List.map_nil,
      List.contains_cons, beq_self_eq_true, Bool.true_or, if_true, bucket_cons, List.isEmpty_cons, Bool.false_eq_true,
      if_false, addSet_nil hb, delKey]

theorem wf_step {r : AffReg} (op : AffOp) (h : r.WF) : (r.step op).WF := by
  obtain ⟨b, hb, e⟩ := h.eq_park
  rw [e]
  cases op with
  | regSpec x => rw [AffReg.step, regSpec_park]; exact wf_park _ (nodup_insertNew hb)
  | unregSpec x => rw [AffReg.step, unregSpec_park]; exact wf_park _ (hb.sublist List.erase_sublist)
  | regShip s =>
    cases r.ship with
    | none => exact (regShip_park hb s ▸ wf_park _ hb : ((park none b).regShip s).WF)
    -- `step` ignores a ship arriving while one is registered
    | some t => exact wf_park (some t) hb
  | unregShip =>
    cases r.ship with
    | none => exact wf_park none hb
    | some s => exact (unregShip_park hb s ▸ wf_park _ hb : ((park (some s) b).unregShip).WF)

end Eos.Keyed
