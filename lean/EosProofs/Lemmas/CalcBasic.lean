import EosModel.Calc
import Mathlib.Data.List.Perm.Basic
import Mathlib.Data.List.Sort
import Mathlib.Tactic.Ring
/-! `Eos.Calc.calculate` in closed form (`calculate_eq`: fails iff a division has a zero operand, otherwise the
ordered fold over the contributions of the known modifications) and its invariance under permutations of the
modifications (`calculate_perm'`), stage by stage.  The folds of the specification are the library's `List.sum`,
`List.prod`, `List.max?`, `List.min?`, `List.mergeSort`. -/
namespace Eos.Calc

theorem sumList_eq (l : List Rat) : sumList l = l.sum := List.sum_eq_foldl.symm
theorem prodOnePlus_eq (l : List Rat) : prodOnePlus l = (l.map (1 + ·)).prod := by
  rw [List.prod_eq_foldl, List.foldl_map]; rfl
theorem maxList_eq (l : List Rat) : maxList l = l.max? := by cases l <;> rfl
theorem minList_eq (l : List Rat) : minList l = l.min? := by cases l <;> rfl

@[simp] theorem sumList_nil : sumList [] = 0 := rfl
@[simp] theorem prodOnePlus_nil : prodOnePlus [] = 1 := rfl
theorem sumList_cons (x : Rat) (xs : List Rat) : sumList (x :: xs) = x + sumList xs := by
  simp only [sumList_eq, List.sum_cons]
theorem prodOnePlus_cons (x : Rat) (xs : List Rat) :
    prodOnePlus (x :: xs) = (1 + x) * prodOnePlus xs := by
  simp only [prodOnePlus_eq, List.map_cons, List.prod_cons]
theorem sumList_append (l l' : List Rat) : sumList (l ++ l') = sumList l + sumList l' := by
  simp only [sumList_eq, List.sum_append]
theorem prodOnePlus_append (l l' : List Rat) :
    prodOnePlus (l ++ l') = prodOnePlus l * prodOnePlus l' := by
  simp only [prodOnePlus_eq, List.map_append, List.prod_append]

theorem sumList_perm {l l' : List Rat} (h : l.Perm l') : sumList l = sumList l' :=
  h.foldl_eq' (fun _ _ _ _ _ => by ring) 0
theorem prodOnePlus_perm {l l' : List Rat} (h : l.Perm l') : prodOnePlus l = prodOnePlus l' :=
  h.foldl_eq' (fun _ _ _ _ _ => by ring) 1

theorem maxList_spec (l : List Rat) (m : Rat) :
    maxList l = some m ↔ m ∈ l ∧ ∀ y ∈ l, y ≤ m := by
  rw [maxList_eq, List.max?_eq_some_iff]
theorem minList_spec (l : List Rat) (m : Rat) :
    minList l = some m ↔ m ∈ l ∧ ∀ y ∈ l, m ≤ y := by
  rw [minList_eq, List.min?_eq_some_iff]

theorem maxList_isSome {l : List Rat} (h : l ≠ []) : ∃ m, maxList l = some m :=
  Option.isSome_iff_exists.1 (by rw [maxList_eq, List.isSome_max?_iff]; exact h)
theorem minList_isSome {l : List Rat} (h : l ≠ []) : ∃ m, minList l = some m :=
  Option.isSome_iff_exists.1 (by rw [minList_eq, List.isSome_min?_iff]; exact h)

theorem maxList_perm {l l' : List Rat} (h : l.Perm l') : maxList l = maxList l' :=
  Option.ext fun m => by simp only [maxList_spec, h.mem_iff]
theorem minList_perm {l l' : List Rat} (h : l.Perm l') : minList l = minList l' :=
  Option.ext fun m => by simp only [minList_spec, h.mem_iff]

theorem mergeSort_unique {α : Type} (r : α → α → Prop) [DecidableRel r] [Std.Total r] [IsTrans α r]
    [Std.Antisymm r] {l s : List α} (hp : s.Perm l) (hs : s.Pairwise r) : l.mergeSort (r · ·) = s :=
  ((List.mergeSort_perm l _).trans hp.symm).eq_of_pairwise' (List.pairwise_mergeSort' r l) hs

theorem sortDesc_perm (l : List Rat) : (sortDesc l).Perm l := List.mergeSort_perm _ _
theorem sortAsc_perm (l : List Rat) : (sortAsc l).Perm l := List.mergeSort_perm _ _
theorem sortDesc_pairwise (l : List Rat) : (sortDesc l).Pairwise (fun a b => b ≤ a) :=
  List.pairwise_mergeSort' (· ≥ ·) l
theorem sortAsc_pairwise (l : List Rat) : (sortAsc l).Pairwise (fun a b => a ≤ b) :=
  List.pairwise_mergeSort' (· ≤ ·) l

theorem penalize_eq (pen : Nat → Rat) (vs pos neg : List Rat)
    (hp : pos.Perm (vs.filter fun v => decide (0 ≤ v))) (hps : pos.Pairwise (fun a b => b ≤ a))
    (hn : neg.Perm (vs.filter fun v => decide (v < 0))) (hns : neg.Pairwise (fun a b => a ≤ b)) :
    penalize pen vs = chainVal pen 0 pos * chainVal pen 0 neg - 1 := by
  unfold penalize sortDesc sortAsc
  rw [mergeSort_unique (· ≥ ·) hp hps, mergeSort_unique (· ≤ ·) hn hns]

theorem penalize_perm (pen : Nat → Rat) {l l' : List Rat} (h : l.Perm l') :
    penalize pen l = penalize pen l' :=
  penalize_eq pen l _ _ ((sortDesc_perm _).trans (h.filter _).symm) (sortDesc_pairwise _)
    ((sortAsc_perm _).trans (h.filter _).symm) (sortAsc_pairwise _)

theorem chainVal_cons_le (pen : Nat → Rat) (i : Nat) (v : Rat) (vs : List Rat) (h : i ≤ 10) :
    chainVal pen i (v :: vs) = (1 + v * pen i) * chainVal pen (i + 1) vs := by
  rw [chainVal, if_neg (by omega)]

theorem chainVal_cut (pen : Nat → Rat) (i : Nat) (l : List Rat) (h : 10 < i) : chainVal pen i l = 1 := by
  cases l with
  | nil => rfl
  | cons v vs => rw [chainVal, if_pos h]

theorem chainVal_append (pen : Nat → Rat) (l ex : List Rat) (i : Nat) :
    chainVal pen i (l ++ ex) = chainVal pen i l * chainVal pen (i + l.length) ex := by
  induction l generalizing i with
  | nil => rw [List.nil_append, chainVal, one_mul]; rfl
  | cons v vs ih =>
    by_cases hi : 10 < i
    · rw [chainVal_cut pen i _ hi, chainVal_cut pen i _ hi, chainVal_cut pen _ _ (by omega), one_mul]
    · rw [List.cons_append, chainVal_cons_le pen i v _ (by omega), chainVal_cons_le pen i v _ (by omega), ih,
        mul_assoc, Nat.add_right_comm]; rfl

theorem chainVal_append_cut (pen : Nat → Rat) (l ex : List Rat) (i : Nat) (h : 11 ≤ i + l.length) :
    chainVal pen i (l ++ ex) = chainVal pen i l := by
  rw [chainVal_append, chainVal_cut pen _ ex h, mul_one]

theorem penalize_nil (pen : Nat → Rat) : penalize pen [] = 0 := by
  simp [penalize, sortDesc, sortAsc, chainVal]

theorem penalize_single (pen : Nat → Rat) (v : Rat) : penalize pen [v] = v * pen 0 := by
  by_cases h : 0 ≤ v
  · simp [penalize, sortDesc, sortAsc, chainVal, h, not_lt.2 h]
  · simp [penalize, sortDesc, sortAsc, chainVal, h, not_le.1 h]

theorem pairLe_iff {a b : Rat × Bool} :
    pairLe a b = true ↔ a.1 < b.1 ∨ (a.1 = b.1 ∧ (a.2 = true → b.2 = true)) := by
  simp [pairLe, imp_iff_not_or]

theorem pairLe_total (a b : Rat × Bool) : pairLe a b = true ∨ pairLe b a = true := by
  rw [pairLe_iff, pairLe_iff]
  rcases lt_trichotomy a.1 b.1 with h | h | h
  · exact Or.inl (Or.inl h)
  · cases h2 : b.2
    · exact Or.inr (Or.inr ⟨h.symm, by simp⟩)
    · exact Or.inl (Or.inr ⟨h, fun _ => rfl⟩)
  · exact Or.inr (Or.inl h)

theorem pairLe_trans (a b c : Rat × Bool) (h1 : pairLe a b = true) (h2 : pairLe b c = true) :
    pairLe a c = true := by
  rw [pairLe_iff] at *
  rcases h1 with h1 | ⟨e1, h1⟩ <;> rcases h2 with h2 | ⟨e2, h2⟩
  · exact Or.inl (lt_trans h1 h2)
  · exact Or.inl (e2 ▸ h1)
  · exact Or.inl (e1 ▸ h2)
  · exact Or.inr ⟨e1.trans e2, fun h => h2 (h1 h)⟩

theorem pairLe_antisymm (a b : Rat × Bool) (h1 : pairLe a b = true) (h2 : pairLe b a = true) : a = b := by
  rw [pairLe_iff] at *
  rcases h1 with h1 | ⟨e1, h1⟩ <;> rcases h2 with h2 | ⟨_, h2⟩
  · exact absurd (lt_trans h1 h2) (lt_irrefl _)
  · exact absurd h1 (by simp [*])
  · exact absurd h2 (by simp [e1])
  · exact Prod.ext e1 (Bool.eq_iff_iff.2 ⟨h1, h2⟩)

theorem foldl_sel_spec {α : Type} {le : α → α → Bool} (total : ∀ a b, le a b = true ∨ le b a = true)
    (trans : ∀ a b c, le a b = true → le b c = true → le a c = true) (xs : List α) (x : α) :
    xs.foldl (fun acc y => if le acc y then acc else y) x ∈ x :: xs ∧
    ∀ y ∈ x :: xs, le (xs.foldl (fun acc y => if le acc y then acc else y) x) y = true := by
  induction xs generalizing x with
  | nil => simpa using (total x x).elim id id
  | cons z zs ih =>
    rw [List.foldl_cons]
    obtain ⟨hm, hle⟩ := ih (if le x z then x else z)
    have h0 := hle _ List.mem_cons_self
    refine ⟨?_, fun y hy => ?_⟩
    · rcases List.mem_cons.1 hm with h | h
      · rw [h]; split <;> simp
      · simp [h]
    · rcases List.mem_cons.1 hy with rfl | hy
      · refine trans _ _ _ h0 ?_
        split
        · exact (total y y).elim id id
        · exact (total y z).resolve_left ‹_›
      rcases List.mem_cons.1 hy with rfl | hy
      · refine trans _ _ _ h0 ?_
        split
        · assumption
        · exact (total y y).elim id id
      · exact hle _ (List.mem_cons_of_mem _ hy)

theorem pickMinPair_spec (l : List (Rat × Bool)) (v : Rat) (p : Bool) :
    pickMinPair l = some (v, p) ↔
      (v, p) ∈ l ∧ ∀ q ∈ l, v < q.1 ∨ (v = q.1 ∧ (p = true → q.2 = true)) := by
  cases l with
  | nil => simp [pickMinPair]
  | cons x xs =>
    obtain ⟨hm, hle⟩ := foldl_sel_spec pairLe_total pairLe_trans xs x
    simp only [pickMinPair, Option.some.injEq, ← pairLe_iff (a := (v, p))]
    constructor
    · intro h; exact h ▸ ⟨hm, hle⟩
    · rintro ⟨h1, h2⟩; exact pairLe_antisymm _ _ (hle _ h1) (h2 _ hm)

theorem pickMinPair_perm {l l' : List (Rat × Bool)} (h : l.Perm l') : pickMinPair l = pickMinPair l' :=
  Option.ext fun ⟨v, p⟩ => by simp only [pickMinPair_spec, h.mem_iff]

theorem pickMin_perm {l l' : List NMod} (h : l.Perm l') : pickMin l = pickMin l' :=
  pickMinPair_perm (h.map _)
theorem pickMax_perm {l l' : List NMod} (h : l.Perm l') : pickMax l = pickMax l' := by
  unfold pickMax; rw [pickMinPair_perm (h.map _)]

section
variable {α : Type} [DecidableEq α]

theorem mem_dedup (l : List α) : ∀ x, x ∈ dedup l ↔ x ∈ l := by
  induction l with
  | nil => simp [dedup]
  | cons y ys ih =>
    intro x
    simp only [dedup]
    split
    · rename_i hy; rw [ih, List.mem_cons]
      exact ⟨Or.inr, fun h => h.elim (fun e => e ▸ (ih y).1 hy) id⟩
    · rw [List.mem_cons, List.mem_cons, ih]

theorem nodup_dedup (l : List α) : (dedup l).Nodup := by
  induction l with
  | nil => simp [dedup]
  | cons y ys ih =>
    simp only [dedup]
    split
    · exact ih
    · rename_i hy; exact List.nodup_cons.2 ⟨hy, ih⟩

theorem dedup_perm {l l' : List α} (h : l.Perm l') : (dedup l).Perm (dedup l') :=
  (List.perm_ext_iff_of_nodup (nodup_dedup l) (nodup_dedup l')).2 fun x => by
    rw [mem_dedup, mem_dedup]; exact h.mem_iff
end

def groupOf (ns : List NMod) (mode : Nat) (k : Nat × Option Int) : List NMod :=
  (ns.filter (·.agg == mode)).filter fun n => n.op == k.1 && n.key == k.2
def keysOf (ns : List NMod) (mode : Nat) : List (Nat × Option Int) :=
  dedup ((ns.filter (·.agg == mode)).map fun n => (n.op, n.key))
def groupPart (ns : List NMod) (mode : Nat) (pick : List NMod → Option (Rat × Bool)) :
    List (Nat × Rat × Bool) :=
  (keysOf ns mode).filterMap fun k => (pick (groupOf ns mode k)).map fun p => (k.1, p.1, p.2)

theorem contributions_eq (ns : List NMod) :
    contributions ns = ((ns.filter (·.agg == 1)).map fun n => (n.op, n.v, n.pen)) ++
      groupPart ns 2 pickMin ++ groupPart ns 3 pickMax := rfl

theorem groupPart_perm {ns ns' : List NMod} (h : ns.Perm ns') (mode : Nat)
    (pick : List NMod → Option (Rat × Bool)) (hpick : ∀ l l', l.Perm l' → pick l = pick l') :
    (groupPart ns mode pick).Perm (groupPart ns' mode pick) := by
  unfold groupPart
  have hf : (fun k : Nat × Option Int => (pick (groupOf ns mode k)).map fun p => (k.1, p.1, p.2)) =
      fun k => (pick (groupOf ns' mode k)).map fun p => (k.1, p.1, p.2) := by
    funext k
    exact congrArg _ (hpick _ _ (((h.filter _).filter _) : (groupOf ns mode k).Perm (groupOf ns' mode k)))
  rw [hf]
  exact (dedup_perm ((h.filter _).map _)).filterMap _

theorem contributions_perm {ns ns' : List NMod} (h : ns.Perm ns') :
    (contributions ns).Perm (contributions ns') := by
  rw [contributions_eq, contributions_eq]
  exact (((h.filter _).map _).append (groupPart_perm h 2 _ fun _ _ => pickMin_perm)).append
    (groupPart_perm h 3 _ fun _ _ => pickMax_perm)

theorem opValues_perm (pen : Nat → Rat) {cs cs' : List (Nat × Rat × Bool)} (h : cs.Perm cs') (op : Nat) :
    (opValues pen cs op).Perm (opValues pen cs' op) := by
  unfold opValues
  have h1 := (h.filter fun c => c.1 == op && !c.2.2).map (·.2.1)
  have h2 := (h.filter fun c => c.1 == op && c.2.2).map (·.2.1)
  simp only []
  rw [penalize_perm pen h2]
  rw [h2.isEmpty_eq]
  split
  · exact h1
  · exact h1.append_right _

theorem applyOp_perm (hig : Bool) (op : Nat) {vs vs' : List Rat} (h : vs.Perm vs') (value : Rat) :
    applyOp hig op vs value = applyOp hig op vs' value := by
  unfold applyOp
  rw [h.isEmpty_eq, maxList_perm h, minList_perm h, sumList_perm h, prodOnePlus_perm h]

theorem foldOps_perm (pen : Nat → Rat) (hig : Bool) {cs cs' : List (Nat × Rat × Bool)} (h : cs.Perm cs')
    (base : Rat) : foldOps pen hig cs base = foldOps pen hig cs' base := by
  unfold foldOps
  congr 1
  funext value op
  exact applyOp_perm hig op (opValues_perm pen h op) value

def isBad (m : Mod) : Bool := (m.op == 3 || m.op == 8) && decide (m.value = 0)

/-- Total version of `normalize` (value 0 in the division-by-zero case, which `normAll` excludes). -/
def normVal (op : Nat) (v : Rat) : Rat := match normalize op v with | .ok r => r | .error _ => 0
def nmOf (stackable : Bool) (m : Mod) : NMod :=
  { op := m.op, v := normVal m.op m.value * m.resist, agg := m.agg, key := m.aggKey,
    pen := !stackable && !m.immune && isPenalizable m.op }

theorem isBad_iff (m : Mod) : isBad m = true ↔ (m.op = 3 ∨ m.op = 8) ∧ m.value = 0 := by
  simp only [isBad, Bool.and_eq_true, Bool.or_eq_true, beq_iff_eq, decide_eq_true_eq]

theorem isBad_eq_false {m : Mod} (h : m.op = 3 ∨ m.op = 8 → m.value ≠ 0) : isBad m = false :=
  Bool.eq_false_iff.2 fun hb => h ((isBad_iff m).1 hb).1 ((isBad_iff m).1 hb).2

theorem normVal_ok {op : Nat} {v r : Rat} (h : normalize op v = .ok r) : normVal op v = r := by
  simp [normVal, h]

theorem normalize_eq (m : Mod) :
    normalize m.op m.value = if isBad m then .error .divZero else .ok (normVal m.op m.value) := by
  unfold isBad normVal normalize
  cases m.op == 3 || m.op == 8
  · simp only [Bool.false_eq_true, if_false, Bool.false_and, ← apply_ite Except.ok]
  · by_cases hv : m.value = 0 <;> simp [hv]

theorem normMod_eq (st : Bool) (m : Mod) :
    normMod st m = if isBad m then .error .divZero else .ok (nmOf st m) := by
  unfold normMod; rw [normalize_eq]; split <;> rfl

theorem normAll_eq (st : Bool) (mods : List Mod) :
    normAll st mods = if mods.any isBad then .error .divZero
      else .ok ((mods.filter fun m => knownOp m.op).map (nmOf st)) := by
  induction mods with
  | nil => rfl
  | cons m ms ih =>
    unfold normAll
    by_cases hk : knownOp m.op = true
    · rw [if_pos hk, normMod_eq, ih, List.any_cons, List.filter_cons_of_pos (by simpa using hk)]
      cases isBad m <;> cases ms.any isBad <;> rfl
    · have hb : isBad m = false := isBad_eq_false fun e _ => by
        rcases e with e | e <;> rw [e] at hk <;> exact hk rfl
      rw [if_neg hk, ih, List.any_cons, hb, Bool.false_or, List.filter_cons_of_neg (by simpa using hk)]

theorem calculate_eq (pen : Nat → Rat) (st hig : Bool) (base : Rat) (mods : List Mod)
    (cap : Option Rat) (lim : Bool) :
    calculate pen st hig base mods cap lim =
      if mods.any isBad then .error .divZero else
        .ok (let v := foldOps pen hig (contributions ((mods.filter fun m => knownOp m.op).map (nmOf st))) base
             let v := match cap with | some c => min v c | none => v
             if lim then round2 v else v) := by
  unfold calculate
  rw [normAll_eq]
  split <;> rfl

theorem calculate_perm' (pen : Nat → Rat) (st hig : Bool) (base : Rat) {mods mods' : List Mod}
    (h : mods.Perm mods') (cap : Option Rat) (lim : Bool) :
    calculate pen st hig base mods cap lim = calculate pen st hig base mods' cap lim := by
  rw [calculate_eq, calculate_eq, h.any_eq,
    foldOps_perm pen hig (contributions_perm ((h.filter _).map (nmOf st))) base]

end Eos.Calc
