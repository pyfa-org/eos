import EosGen.AffectsTableL07
namespace Eos.C02
open Eos.AffectsSpec EosGen.AffectsTable

theorem affects_blockL07_ok : localBlockOk blockL07 blockL07Cases blockL07Modified blockL07Valid = true := by decide +kernel

end Eos.C02
