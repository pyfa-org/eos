import EosGen.FleetTable2
namespace Eos.C13
open Eos.AffectsSpec EosGen.FleetTable

theorem fleet_block2_ok : fleetBlockOk blockF2 blockF2Cases blockF2Boosted = true := by decide +kernel

end Eos.C13
