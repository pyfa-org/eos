import EosProofs.Lemmas.ContainersOps
/-! Footprints: which storage a method of the container model can write.  `Writes p s s'` says that `s'` is
built from `s` by the setters alone, writing container storage at place `p` only (back-references anywhere).
It is read off the code of each method, and what an operation cannot touch follows from it once
(`Writes.untouched`, `step_sameAt`): the other racks, sets, key maps and descriptors. -/
namespace Eos.Containers

/-- The fields that the solar-system, fleet and damage-profile operations write. -/
def World.fitPart (s : World) := (s.fitSs, s.ssFits, s.fitFl, s.flFits, s.dmg, s.rah)
/-- The fields that the container methods write. -/
def World.contPart (s : World) := (s.lists, s.sets, s.keyed, s.slots, s.owner)

def Frame (t : Option SetId) (s s' : World) : Prop :=
  s'.fitPart = s.fitPart ∧ ∀ c, some c ≠ t → s'.sets c = s.sets c ∧ s'.keyed c = s.keyed c

inductive Writes (p : Place) (s : World) : World → Prop
  | refl : Writes p s s
  | setList {s' f r l} : p = .rack f r → Writes p s s' → Writes p s (s'.setList f r l)
  | setSet {s' c l} : p = .set c → Writes p s s' → Writes p s (s'.setSet c l)
  | setKeyed {s' c l} : p = .set c → Writes p s s' → Writes p s (s'.setKeyed c l)
  | setSlot {s' c v} : p = .slot c → Writes p s s' → Writes p s (s'.setSlot c v)
  | setOwner {s' i o} : Writes p s s' → Writes p s (s'.setOwner i o)
  | dropOwners {s' xs} : Writes p s s' → Writes p s (s'.dropOwners xs)

theorem Writes.trans {p : Place} {s s' s'' : World} (h : Writes p s s') (h' : Writes p s' s'') : Writes p s s'' := by
  induction h' with
  | refl => exact h
  | setList e _ ih => exact .setList e ih
  | setSet e _ ih => exact .setSet e ih
  | setKeyed e _ ih => exact .setKeyed e ih
  | setSlot e _ ih => exact .setSlot e ih
  | setOwner _ ih => exact .setOwner ih
  | dropOwners _ ih => exact .dropOwners ih

def SameAt (s s' : World) : Place → Prop
  | .rack f r => s'.lists f r = s.lists f r
  | .set c => s'.sets c = s.sets c ∧ s'.keyed c = s.keyed c
  | .slot c => s'.slots c = s.slots c

theorem Writes.untouched {p : Place} {s s' : World} (h : Writes p s s') {q : Place} (hq : q ≠ p) : SameAt s s' q := by
  induction h with
  | refl => cases q <;> first | rfl | exact ⟨rfl, rfl⟩
  | setList e _ ih | setSet e _ ih | setKeyed e _ ih | setSlot e _ ih =>
    subst e
    -- a setter is the identity by `rfl` on storage of another kind than its own (`exact ih`); on its own kind
    -- `q` is another rack, set or descriptor than the one written, and the `if` / `upd` takes the other branch
    cases q <;> first | exact ih | simp_all [SameAt, setList_lists, upd_apply]
  | setOwner _ ih | dropOwners _ ih => cases q <;> exact ih

section
variable (U : Univ) (s : World) (f r : Nat) (c : SetId)
attribute [local irreducible] World.setList World.setSet World.setKeyed World.setSlot World.setOwner World.dropOwners

/- Once a method is unfolded and split into its branches, every result is a nest of setters over `s`, and
`Writes` has one constructor per setter: `repeat constructor` takes the nest apart from the outside.  With
the setters irreducible here the head symbol alone selects the constructor (a wrong one fails at once
instead of after unfolding two record updates). -/
theorem listInsert_writes (index : Int) (v : Option Nat) : Writes (.rack f r) s (listInsert U s f r index v).2 := by
  -- here and in `setAdd_writes` a `let` holds an `if`: kept as a local definition it is not copied into
  -- every setter and split there
  unfold listInsert; repeat' first | split | extract_lets
  all_goals repeat constructor

theorem listAppend_writes (v : Option Nat) : Writes (.rack f r) s (listAppend U s f r v).2 := by
  unfold listAppend; dsimp only; repeat' split
  all_goals repeat constructor

theorem listPut_writes (l : List (Option Nat)) (k i : Nat) : Writes (.rack f r) s (listPut s f r l k i).2 := by
  unfold listPut; dsimp only; split
  all_goals repeat constructor

theorem listPlace_writes (index : Int) (v : Option Nat) : Writes (.rack f r) s (listPlace U s f r index v).2 := by
  unfold listPlace; dsimp only; repeat' split
  all_goals first | exact listPut_writes .. | repeat constructor

theorem listEquip_writes (v : Option Nat) : Writes (.rack f r) s (listEquip U s f r v).2 := by
  unfold listEquip; dsimp only; repeat' split
  all_goals first | exact listPut_writes .. | repeat constructor

theorem listRemoveAt_writes (k : Nat) : Writes (.rack f r) s (listRemoveAt s f r k).2 := by
  unfold listRemoveAt; dsimp only; split
  all_goals repeat constructor

theorem listFreeAt_writes (k : Nat) : Writes (.rack f r) s (listFreeAt s f r k).2 := by
  unfold listFreeAt; dsimp only; split
  all_goals repeat constructor

theorem listAtIdx_writes {act : World → Nat → Nat → Nat → Res} (hact : ∀ k, Writes (.rack f r) s (act s f r k).2)
    (index : Int) : Writes (.rack f r) s (listAtIdx act s f r index).2 := by
  unfold listAtIdx; split
  · exact .refl
  · exact hact _

theorem listAtVal_writes {act : World → Nat → Nat → Nat → Res} (hact : ∀ k, Writes (.rack f r) s (act s f r k).2)
    (v : Option Nat) : Writes (.rack f r) s (listAtVal act s f r v).2 := by
  unfold listAtVal; split
  · exact .refl
  · exact hact _

theorem listClear_writes : Writes (.rack f r) s (listClear s f r).2 := by
  unfold listClear; repeat constructor

theorem setAdd_writes (v : Option Nat) : Writes (.set c) s (setAdd U s c v).2 := by
  unfold setAdd; repeat' first | split | extract_lets
  all_goals repeat constructor

theorem setRemove_writes (v : Option Nat) : Writes (.set c) s (setRemove s c v).2 := by
  unfold setRemove; repeat' split
  all_goals repeat constructor

theorem setClear_writes : Writes (.set c) s (setClear s c).2 := by
  unfold setClear; repeat constructor

theorem keyedAdd_writes (key : Nat) (v : Option Nat) : Writes (.set c) s (keyedAdd U s c key v).2 := by
  unfold keyedAdd; split
  · exact .refl
  split
  · rename_i i _ _
    have h := Writes.trans (.setKeyed rfl .refl) (setAdd_writes U (s.setKeyed c ((key, i) :: s.keyed c)) c (some i))
    dsimp only
    generalize setAdd U (s.setKeyed c ((key, i) :: s.keyed c)) c (some i) = res at h ⊢
    obtain ⟨o, s2⟩ := res
    cases o
    · exact h
    · exact .setKeyed rfl h
  · exact .refl

theorem keyedRemove_writes (key : Nat) (v : Option Nat) : Writes (.set c) s (keyedRemove s c key v).2 := by
  have h := setRemove_writes s c v
  unfold keyedRemove
  generalize setRemove s c v = res at h ⊢
  obtain ⟨o, s1⟩ := res
  cases o
  · dsimp only; split
    · exact h
    · exact .setKeyed rfl h
  · exact h

theorem keyedClear_writes : Writes (.set c) s (keyedClear s c).2 :=
  .setKeyed rfl (setClear_writes s c)

theorem tuAdd_writes (v : Option Nat) : Writes (.set (.skills f)) s (tuAdd U s f v).2 := by
  unfold tuAdd; split
  · exact .refl
  · exact keyedAdd_writes ..

theorem tuRemove_writes (v : Option Nat) : Writes (.set (.skills f)) s (tuRemove U s f v).2 := by
  unfold tuRemove; split
  · exact .refl
  · exact keyedRemove_writes ..

theorem tuDel_writes (t : Nat) : Writes (.set (.skills f)) s (tuDel U s f t).2 := by
  unfold tuDel; split
  · exact .refl
  · exact tuRemove_writes ..

theorem dictDel_writes (m key : Nat) : Writes (.set (.auto m)) s (dictDel s m key).2 := by
  unfold dictDel; split
  · exact .refl
  · exact keyedRemove_writes ..

theorem assign_writes (sl : SlotId) (v : Option Nat) : Writes (.slot sl) s (assign U s sl v).2 := by
  unfold assign; dsimp only; repeat' split
  all_goals repeat constructor
end

/-- The place whose storage an operation works on (`none`: fit sets of solar systems and fleets, damage profiles). -/
def Op.site : Op → Option Place
  | .insert f r _ _ | .append f r _ | .place f r _ _ | .equip f r _ | .removeIdx f r _ | .removeVal f r _
  | .freeIdx f r _ | .freeVal f r _ | .clear f r => some (.rack f r)
  | .setAdd f k _ | .setRemove f k _ | .setClear f k => some (.set (.plain f k))
  | .tuAdd f _ | .tuRemove f _ | .tuDel f _ | .tuClear f => some (.set (.skills f))
  | .dictSet m _ _ | .dictDel m _ | .dictClear m => some (.set (.auto m))
  | .assign c _ => some (.slot c)
  | _ => none

theorem step_writes (U : Univ) (s : World) {op : Op} {p : Place} (hp : op.site = some p) :
    Writes p s (step U s op).2 := by
  cases op <;> cases hp
  case insert => exact listInsert_writes ..
  case append => exact listAppend_writes ..
  case place => exact listPlace_writes ..
  case equip => exact listEquip_writes ..
  case removeIdx => exact listAtIdx_writes _ _ _ (listRemoveAt_writes s _ _) _
  case removeVal => exact listAtVal_writes _ _ _ (listRemoveAt_writes s _ _) _
  case freeIdx => exact listAtIdx_writes _ _ _ (listFreeAt_writes s _ _) _
  case freeVal => exact listAtVal_writes _ _ _ (listFreeAt_writes s _ _) _
  case clear => exact listClear_writes ..
  case setAdd => exact setAdd_writes ..
  case setRemove => exact setRemove_writes ..
  case setClear => exact setClear_writes ..
  case tuAdd => exact tuAdd_writes ..
  case tuRemove => exact tuRemove_writes ..
  case tuDel => exact tuDel_writes ..
  case tuClear => exact keyedClear_writes ..
  case dictSet => exact keyedAdd_writes ..
  case dictDel => exact dictDel_writes ..
  case dictClear => exact keyedClear_writes ..
  case assign => exact assign_writes ..

theorem step_fit_spec (U : Univ) (s : World) {op : Op} (hp : op.site = none) :
    Spec s (fun s' => s'.contPart = s.contPart) (step U s op) := by
  cases op with
  | ssAdd g f => simp only [step, ssAdd]; split; exact .error _; exact .ok rfl
  | ssRemove g f => simp only [step, ssRemove]; split; exact .ok rfl; exact .error _
  | flAdd g f => simp only [step, flAdd]; split; exact .error _; exact .ok rfl
  | flRemove g f => simp only [step, flRemove]; split; exact .ok rfl; exact .error _
  | setDmg f a => cases a; exact .ok rfl; exact .error _; exact .error _
  | setRah f a => cases a; exact .ok rfl; exact .ok rfl; exact .error _
  | ssClear g | flClear g => exact .ok rfl
  | _ => contradiction

theorem step_sameAt (U : Univ) (s : World) (op : Op) {q : Place} (hq : op.site ≠ some q) : SameAt s (step U s op).2 q := by
  cases hp : op.site with
  | none =>
    have := (step_fit_spec U s hp).snd rfl
    simp only [World.contPart, Prod.mk.injEq] at this
    obtain ⟨hlists, hsets, hkeyed, hslots, _⟩ := this
    cases q <;> simp [SameAt, hlists, hsets, hkeyed, hslots]
  | some p => exact (step_writes U s hp).untouched (fun e => hq (by rw [hp, e]))

/-- The rack a rack method addresses: `Op.site` restricted to racks (`Op.rackTarget_eq`), so that
`C07.other_racks_untouched` can be stated without the notion of a place. -/
def Op.rackTarget : Op → Option (Nat × Nat)
  | .insert f r _ _ | .append f r _ | .place f r _ _ | .equip f r _ | .removeIdx f r _ | .removeVal f r _
  | .freeIdx f r _ | .freeVal f r _ | .clear f r => some (f, r)
  | _ => none

theorem Op.rackTarget_eq (op : Op) :
    op.rackTarget = match op.site with | some (.rack f r) => some (f, r) | _ => none := by
  cases op <;> rfl

end Eos.Containers
