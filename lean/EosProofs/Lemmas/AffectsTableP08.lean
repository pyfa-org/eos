import EosGen.AffectsTableP08
namespace Eos.C02
open Eos.AffectsSpec EosGen.AffectsTable

theorem affects_blockP08_ok : projBlockOk blockP08 blockP08Cases blockP08Modified blockP08Valid = true := by decide +kernel

end Eos.C02
