import EosProofs.Lemmas.MicroBasic
/-! A message changes the registers at one key (`dynStep`), and a node that is not among the message's direct
invalidation targets keeps its calculation: `SameCalc` (same type of its item, same affector specs — all that `deps`
and `evalD` see of the registers: the carrier of a registered spec is loaded, `typeOf?_of_running`).  Every kind of
change goes through one congruence, `specsOn_congr`: the specs on a node change only through effects whose
contribution to that node changes. -/
namespace Eos.Micro.L
open Eos.World

variable {u : Universe} {cfg : Config} {d : Dyn}

structure SameCalc (u : Universe) (cfg : Config) (d d' : Dyn) (n : Node) : Prop where
  ty : ∀ x, item? cfg n.1 = some x → typeOf? u d' x = typeOf? u d x
  sp : ∀ x am tx, item? cfg n.1 = some x → attrMeta? u n.2 = some am → typeOf? u d x = some tx →
    specsOn u cfg d' x tx am.id = specsOn u cfg d x tx am.id

theorem SameCalc.deps_eq {d' : Dyn} {n : Node} (h : SameCalc u cfg d d' n) :
    deps u cfg d' n = deps u cfg d n := by
  unfold deps
  cases hx : item? cfg n.1 with
  | none => rfl
  | some x =>
    cases ham : attrMeta? u n.2 with
    | none => rfl
    | some am =>
      simp only [h.ty x hx]
      cases htx : typeOf? u d x with
      | none => rfl
      | some tx => simp only [h.sp x am tx hx ham htx]

theorem SameCalc.eval_eq {d' : Dyn} {n : Node} (h : SameCalc u cfg d d' n) (immune limited : List Int)
    (pen : Nat → Rat) (f : Node → Option Rat) :
    evalD u cfg d' immune limited pen n f = evalD u cfg d immune limited pen n f := by
  unfold evalD
  cases hx : item? cfg n.1 with
  | none => rfl
  | some x =>
    cases ham : attrMeta? u n.2 with
    | none => rfl
    | some am =>
      exact congrArg valToOption (valueOfD_congr (h.ty x hx) fun _ tx htx =>
        ⟨gatherD_congr (h.sp x am tx hx ham htx) fun _ _ => ⟨rfl, fun _ _ _ => rfl⟩, fun _ _ => rfl⟩)

/-- The node has a value for static reasons: a skill's level, or a loaded item whose type (or the attribute's
default) provides a base value.  Under `StaticAt` (no calculation fails) this is `spec ≠ none`, and it sees the
registers only through `typeOf?`: that is how the third clause of `Machine.Legal` (a dependency has a value before
iff after) is discharged, `absent_iff_of_static`. -/
def present (u : Universe) (cfg : Config) (d : Dyn) (n : Node) : Bool :=
  match item? cfg n.1, attrMeta? u n.2 with
  | some x, some am =>
    if x.kind == .skill && am.id == 280 then x.level.isSome else
    match typeOf? u d x with
    | none => false
    | some tx => (baseOf tx am).isSome
  | _, _ => false

theorem present_congr {d' : Dyn} {n : Node} (h : ∀ x, item? cfg n.1 = some x → typeOf? u d' x = typeOf? u d x) :
    present u cfg d' n = present u cfg d n := by
  unfold present
  cases hx : item? cfg n.1 with
  | none => rfl
  | some x =>
    cases ham : attrMeta? u n.2 with
    | none => rfl
    | some am => simp only [h x hx]

def locOf (a : Item) (e : Effect) : List Spec := (e.mods.filter (·.domain != 4)).map fun m => ⟨a, e, m, none⟩

def projAt (u : Universe) (d : Dyn) (a : Item) (e : Effect) (t : Item) : List Spec :=
  (projMods u d a e).map fun m => ⟨a, e, m, some t⟩

def projOf (u : Universe) (cfg : Config) (d : Dyn) (a : Item) (e : Effect) : List Spec :=
  if e.category == 2 || e.isBuff then (targetsOf cfg d a e).flatMap (projAt u d a e) else []

def hits (cfg : Config) (attr : Int) (x : Item) (tx : ItemType) (s : Spec) : Bool :=
  s.m.tgtAttr == attr && selects cfg s x tx

theorem specsOn_eq (x : Item) (tx : ItemType) (attr : Int) :
    specsOn u cfg d x tx attr =
      (cfg.items.flatMap fun a => (running u d a).flatMap (locOf a) ++ (running u d a).flatMap (projOf u cfg d a)).filter
        (hits cfg attr x tx) := rfl

theorem projOf_eq_nil {a : Item} {e : Effect} (h : d.tgts a.id e.id = []) : projOf u cfg d a e = [] := by
  unfold projOf targetsOf; rw [h]; split <;> rfl

/-- A pair, because in `specsOn` the local specs of *all* effects of an item come before the projected specs of all
its effects (`specsOn_eq`): one effect's contribution is not contiguous. -/
def contrib (u : Universe) (cfg : Config) (d : Dyn) (p : Spec → Bool) (a : Item) (e : Effect) :
    List Spec × List Spec :=
  (if d.on a.id e.id then (locOf a e).filter p else [], if d.on a.id e.id then (projOf u cfg d a e).filter p else [])

theorem contrib_proj_congr {d' : Dyn} {p : Spec → Bool} {a : Item} {e : Effect}
    (ho : d'.on a.id e.id = d.on a.id e.id)
    (h : d.on a.id e.id = true → (projOf u cfg d' a e).filter p = (projOf u cfg d a e).filter p) :
    contrib u cfg d' p a e = contrib u cfg d p a e := by
  unfold contrib; rw [ho]; split
  · rw [h ‹_›]
  · rfl

theorem contrib_congr {d' : Dyn} {p : Spec → Bool} {a : Item} {e : Effect} (ho : d'.on a.id e.id = d.on a.id e.id)
    (ht : d'.tgts a.id e.id = d.tgts a.id e.id) (hb : d'.bspecs a.id e.id = d.bspecs a.id e.id) :
    contrib u cfg d' p a e = contrib u cfg d p a e :=
  contrib_proj_congr ho fun _ => by unfold projOf projAt targetsOf projMods; rw [ht, hb]

theorem contrib_eq_nil {p : Spec → Bool} {a : Item} {e : Effect} (hl : (locOf a e).filter p = [])
    (hp : (projOf u cfg d a e).filter p = []) : contrib u cfg d p a e = ([], []) := by
  unfold contrib; rw [hl, hp, ite_self]

theorem specsOn_congr {d' : Dyn} {x : Item} {tx : ItemType} {attr : Int}
    (h : ∀ a ∈ cfg.items, (running u d' a = [] ∧ running u d a = []) ∨
      (d'.loaded a.id = d.loaded a.id ∧ ∀ e ∈ typeEffects u d a,
        contrib u cfg d' (hits cfg attr x tx) a e = contrib u cfg d (hits cfg attr x tx) a e)) :
    specsOn u cfg d' x tx attr = specsOn u cfg d x tx attr := by
  rw [specsOn_eq, specsOn_eq, List.filter_flatMap, List.filter_flatMap]
  refine flatMap_congr_mem fun a ha => ?_
  rcases h a ha with ⟨h', h0⟩ | ⟨hl, he⟩
  · simp only [h', h0, List.flatMap_nil]
  · rw [List.filter_append, List.filter_append]
    unfold running
    rw [typeEffects_congr hl]
    exact congr (congrArg _ (filter_flatMap_filter_congr fun e he' => congrArg Prod.fst (he e he')))
      (filter_flatMap_filter_congr fun e he' => congrArg Prod.snd (he e he'))

theorem hit_direct {d0 : Dyn} {specs : List Spec} {s : Spec} {x : Item} {am : AttrMeta} {tx : ItemType} {n : Node}
    (hs : s ∈ specs) (hx : item? cfg n.1 = some x) (ham : attrMeta? u n.2 = some am)
    (htx : typeOf? u d0 x = some tx) (hh : hits cfg am.id x tx s = true) : n ∈ directOf u cfg d0 specs := by
  obtain ⟨htgt, hsel⟩ : s.m.tgtAttr = am.id ∧ selects cfg s x tx = true := by simpa [hits] using hh
  rw [node_eq hx ham, ← htgt]
  exact List.mem_flatMap.2 ⟨s, hs, List.mem_map.2 ⟨x, mem_affectees.2 ⟨item?_mem hx, tx, htx, hsel⟩, rfl⟩⟩

theorem locOf_listed (hU : UniqueIds cfg) {d0 : Dyn} {es : List Int} {a : Item} {e : Effect} {s : Spec}
    (ha : a ∈ cfg.items) (he : e ∈ running u d0 a) (hes : e.id ∈ es) (hs : s ∈ locOf a e) :
    s ∈ localSpecsOf u cfg d0 a.id es := by
  unfold localSpecsOf
  rw [item?_of_mem hU ha]
  obtain ⟨m, _, rfl⟩ := List.mem_map.1 hs
  exact List.mem_filter.2 ⟨List.mem_flatMap.2 ⟨e, he, hs⟩, by simpa using hes⟩

theorem projOf_listed (hU : UniqueIds cfg) {d0 : Dyn} {ts : List Nat} {a t : Item} {e : Effect} {s : Spec}
    (ha : a ∈ cfg.items) (he : e ∈ running u d0 a) (hcat : (e.category == 2 || e.isBuff) = true)
    (ht : t ∈ targetsOf cfg d0 a e) (hts : t.id ∈ ts) (hs : s ∈ projAt u d0 a e t) :
    s ∈ projSpecsOf u cfg d0 a.id e.id ts := by
  unfold projSpecsOf
  rw [item?_of_mem hU ha]
  obtain ⟨m, _, rfl⟩ := List.mem_map.1 hs
  refine List.mem_filter.2 ⟨List.mem_flatMap.2 ⟨e, he, ?_⟩, by simpa using hts⟩
  rw [if_pos hcat]
  exact List.mem_flatMap.2 ⟨t, ht, hs⟩

def setBspecs (d : Dyn) (i : Nat) (e : Int) (ms : List Modifier) : Dyn :=
  { d with bspecs := fun j f => if j = i ∧ f = e then ms else d.bspecs j f }

def setLoaded (d : Dyn) (i : Nat) (v : Bool) : Dyn :=
  { d with loaded := fun j => if j = i then v else d.loaded j }

def dynStep (d : Dyn) : MStep → Dyn
  | .load i => setLoaded d i true
  | .unload i => setLoaded d i false
  | .start i es => setOn d i es true
  | .stop i es => setOn d i es false
  | .apply i e ts => setTgts d i e (d.tgts i e ++ ts.filter fun t => !(d.tgts i e).contains t)
  | .unapply i e ts => setTgts d i e ((d.tgts i e).filter fun t => !ts.contains t)
  | .buffset i e ms => setBspecs d i e ms
  | .read _ | .changed _ _ | .reconfig _ => d

theorem mstep_dyn (s : MState) (st : MStep) : (mstep u s st).dyn = dynStep s.dyn st := by
  cases st <;> rfl

theorem setTgts_self (d : Dyn) (i : Nat) (e : Int) (ts : List Nat) : (setTgts d i e ts).tgts i e = ts :=
  if_pos ⟨rfl, rfl⟩

theorem setTgts_ne {i j : Nat} {e f : Int} (h : ¬(j = i ∧ f = e)) (ts : List Nat) :
    (setTgts d i e ts).tgts j f = d.tgts j f := if_neg h

theorem setBspecs_self (d : Dyn) (i : Nat) (e : Int) (ms : List Modifier) : (setBspecs d i e ms).bspecs i e = ms :=
  if_pos ⟨rfl, rfl⟩

theorem setBspecs_ne {i j : Nat} {e f : Int} (h : ¬(j = i ∧ f = e)) (ms : List Modifier) :
    (setBspecs d i e ms).bspecs j f = d.bspecs j f := if_neg h

/-- The direct targets are taken in the state in which the switched effects run: the new one for a start
(`v = true`), the old one for a stop. -/
theorem sameCalc_setOn (hU : UniqueIds cfg) {i : Nat} {es : List Int} {v : Bool}
    (htg : ∀ e ∈ es, d.tgts i e = []) {n : Node}
    (hnd : n ∉ directOf u cfg (bif v then setOn d i es true else d)
      (localSpecsOf u cfg (bif v then setOn d i es true else d) i es)) :
    SameCalc u cfg d (setOn d i es v) n where
  ty := fun _ _ => rfl
  sp := by
    intro x am tx hx ham htx
    refine specsOn_congr fun a ha => .inr ⟨rfl, fun e he => ?_⟩
    by_cases hne : (setOn d i es v).on a.id e.id = d.on a.id e.id
    · exact contrib_congr hne rfl rfl
    -- a switched effect contributes nothing to `n`, running or not
    obtain ⟨rfl, hes⟩ : a.id = i ∧ e.id ∈ es :=
      Classical.byContradiction fun hc => hne (if_neg hc)
    have hl1 : (bif v then setOn d a.id es true else d).loaded = d.loaded := by cases v <;> rfl
    have her : e ∈ running u (bif v then setOn d a.id es true else d) a := by
      refine mem_running.2 ⟨typeEffects_congr (congrFun hl1 _) ▸ he, ?_⟩
      have hv : (setOn d a.id es v).on a.id e.id = v := if_pos ⟨rfl, hes⟩
      cases v with
      | true => exact hv
      | false => rw [hv] at hne; exact eq_true_of_ne_false (Ne.symm hne)
    have hloc : (locOf a e).filter (hits cfg am.id x tx) = [] := List.filter_eq_nil_iff.2 fun s hs hh =>
      hnd (hit_direct (locOf_listed hU ha her hes hs) hx ham (typeOf?_congr (congrFun hl1 _) ▸ htx) hh)
    have hproj : ∀ d0 : Dyn, d0.tgts a.id e.id = [] → (projOf u cfg d0 a e).filter (hits cfg am.id x tx) = [] :=
      fun d0 h => by rw [projOf_eq_nil h]; rfl
    exact (contrib_eq_nil hloc (hproj (setOn d a.id es v) (htg _ hes))).trans
      (contrib_eq_nil hloc (hproj d (htg _ hes))).symm

/-- The record of projector `(i, e0)` may change in any way that keeps, for every running effect with that key, the
projected specs which hit the node. -/
theorem sameCalc_setTgts {i : Nat} {e0 : Int} {new : List Nat} {n : Node}
    (h : ∀ x am tx, item? cfg n.1 = some x → attrMeta? u n.2 = some am → typeOf? u d x = some tx →
      ∀ a ∈ cfg.items, a.id = i → ∀ e ∈ running u d a, e.id = e0 → (e.category == 2 || e.isBuff) = true →
        ((new.filterMap (item? cfg)).flatMap (projAt u d a e)).filter (hits cfg am.id x tx) =
          ((targetsOf cfg d a e).flatMap (projAt u d a e)).filter (hits cfg am.id x tx)) :
    SameCalc u cfg d (setTgts d i e0 new) n where
  ty := fun _ _ => rfl
  sp := by
    intro x am tx hx ham htx
    refine specsOn_congr fun a ha => .inr ⟨rfl, fun e he => ?_⟩
    by_cases hc : a.id = i ∧ e.id = e0
    case neg => exact contrib_congr rfl (setTgts_ne hc _) rfl
    refine contrib_proj_congr rfl fun hon => ?_
    unfold projOf
    split
    · refine Eq.trans ?_ (h x am tx hx ham htx a ha hc.1 e (mem_running.2 ⟨he, hon⟩) hc.2 ‹_›)
      unfold targetsOf; rw [hc.1, hc.2, setTgts_self]; rfl
    · rfl

/-- `EffectUnapplied`: the specs it takes away are listed in the old state. -/
theorem sameCalc_unapply (hU : UniqueIds cfg) {i : Nat} {e0 : Int} {ts : List Nat} {n : Node}
    (hnd : n ∉ directOf u cfg d (projSpecsOf u cfg d i e0 ts)) :
    SameCalc u cfg d (setTgts d i e0 ((d.tgts i e0).filter fun t => !ts.contains t)) n :=
  sameCalc_setTgts fun x am tx hx ham htx a ha hai e he hee hcat => by
    subst hai hee
    exact filter_flatMap_filterMap_filter _ _ _ _ _ fun j hj hqj t hjt => List.filter_eq_nil_iff.2 fun s hs hh =>
      hnd (hit_direct (projOf_listed hU ha he hcat (mem_targetsOf.2 ⟨j, hj, hjt⟩)
        (by rw [item?_id hjt]; simpa using hqj) hs) hx ham htx hh)

/-- `EffectApplied`: the specs it appends are listed in the new state. -/
theorem sameCalc_apply (hU : UniqueIds cfg) {i : Nat} {e0 : Int} {ts ts' : List Nat} {n : Node}
    (hsub : ∀ j ∈ ts', j ∈ ts)
    (hnd : n ∉ directOf u cfg (setTgts d i e0 (d.tgts i e0 ++ ts'))
      (projSpecsOf u cfg (setTgts d i e0 (d.tgts i e0 ++ ts')) i e0 ts)) :
    SameCalc u cfg d (setTgts d i e0 (d.tgts i e0 ++ ts')) n :=
  sameCalc_setTgts fun x am tx hx ham htx a ha hai e he hee hcat => by
    subst hai hee
    rw [List.filterMap_append, List.flatMap_append, List.filter_append]
    refine (congrArg _ (List.filter_eq_nil_iff.2 fun s hs hh => hnd ?_)).trans (List.append_nil _)
    obtain ⟨t, ht, hs⟩ := List.mem_flatMap.1 hs
    obtain ⟨j, hj, hjt⟩ := List.mem_filterMap.1 ht
    exact hit_direct (projOf_listed hU ha he hcat
      (mem_targetsOf.2 ⟨j, by rw [setTgts_self]; exact List.mem_append_right _ hj, hjt⟩)
      (by rw [item?_id hjt]; exact hsub j hj) hs) hx ham htx hh

/-- `buffset` for a projector without recorded targets — it has no projected specs, whatever its registered
warfare-buff modifiers —: every node keeps its calculation. -/
theorem sameCalc_setBspecs {i : Nat} {e0 : Int} {ms : List Modifier} (htg : d.tgts i e0 = []) (n : Node) :
    SameCalc u cfg d (setBspecs d i e0 ms) n := by
  refine ⟨fun _ _ => rfl, fun x am tx _ _ _ => specsOn_congr fun a _ => .inr ⟨rfl, fun e _ => ?_⟩⟩
  by_cases hc : a.id = i ∧ e.id = e0
  · exact contrib_proj_congr rfl fun _ => by
      rw [projOf_eq_nil (d := d) (by rw [hc.1, hc.2]; exact htg),
        projOf_eq_nil (d := setBspecs d i e0 ms) (by rw [hc.1, hc.2]; exact htg)]
  · exact contrib_congr rfl rfl (setBspecs_ne hc _)

theorem sameCalc_setLoaded {i : Nat} {v : Bool} (hon : ∀ e, d.on i e = false) {n : Node} (hn : n.1 ≠ i) :
    SameCalc u cfg d (setLoaded d i v) n := by
  have hrun : ∀ (d0 : Dyn) (a : Item), d0.on = d.on → a.id = i → running u d0 a = [] := fun d0 a h0 hai =>
    List.filter_eq_nil_iff.2 fun e _ => by rw [h0, hai, hon]; simp
  refine ⟨fun x hx => typeOf?_congr (if_neg (by rw [item?_id hx]; exact hn)), fun x am tx _ _ _ =>
    specsOn_congr fun a _ => ?_⟩
  by_cases hai : a.id = i
  · exact .inl ⟨hrun _ a rfl hai, hrun _ a rfl hai⟩
  · exact .inr ⟨if_neg hai, fun e _ => rfl⟩

end Eos.Micro.L
