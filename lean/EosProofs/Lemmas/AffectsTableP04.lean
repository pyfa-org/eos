import EosGen.AffectsTableP04
namespace Eos.C02
open Eos.AffectsSpec EosGen.AffectsTable

theorem affects_blockP04_ok : projBlockOk blockP04 blockP04Cases blockP04Modified blockP04Valid = true := by decide +kernel

end Eos.C02
