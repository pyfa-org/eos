import EosProofs.Lemmas.GatherVia
import EosProofs.Lemmas.FleetTable0
import EosProofs.Lemmas.FleetTable1
import EosProofs.Lemmas.FleetTable2
import EosProofs.Lemmas.FleetTable3
import EosProofs.Lemmas.FleetTable4
import EosProofs.Lemmas.FleetTable5
import EosProofs.Lemmas.Selection
import EosGen.FleetTable
/-! C13: the per-block kernel checks of the regenerated fleet-boost table put together, and translated from what
the kernel evaluated (the selections of the boosted ships, the buff modifiers, a few facts about the row) to
statements about every case: `Eos.World.boostTargets`, `buffModifiers` and `gather` themselves
(`gatherOutcome_boost`). -/
namespace Eos.C13
open Eos.AffectsSpec Eos.World EosGen.FleetTable

structure FleetGood (c : FleetCase) : Prop where
  typed : c.x.typeId = c.tx.id
  scr : specBoost c = c.obs
  inc : specBoost c = c.obsInc
  buff : ∃ bms, buffModifiers c.u (baseReader c.u c.cfg) c.a = .ok bms ∧ c.m ∈ bms
  gather : ∃ v, baseReader c.u c.cfg c.a c.m.srcAttr = .ok v ∧
    gatherOutcome (gather c.u c.cfg specImmune (baseReader c.u c.cfg) c.x c.tx c.m.tgtAttr) c.m.op v =
      some (if c.obs then some 1 else none)

theorem _root_.Eos.AffectsSpec.FleetRow.ok_spec {r : FleetRow} (h : r.ok = true) :
    Tally FleetGood (·.obs) (fun _ => false) r.cases r.tally.1 r.tally.2.1 r.tally.2.2 := by
  obtain ⟨w, m, obs, inc⟩ := r
  cases ha : item? w.cfg w.affector with
  | none => simp [FleetRow.ok, ha] at h
  | some a =>
    simp only [FleetRow.ok, ha] at h
    split at h
    · rename_i bms v hbm hv
      simp only [pickAny_eq, Bool.and_eq_true, Bool.or_eq_true, decide_eq_true_eq, beq_iff_eq, List.all_eq_true,
        Option.isNone_iff_eq_none, and_assoc] at h
      obtain ⟨hal, hsole, hbuff, hres, hany, hone, honce, hobs, hinc⟩ := h
      obtain ⟨hlen, hndI, hnd, hty⟩ := aligned_spec hal
      obtain ⟨ta, e, hact, he⟩ := soleEffect_spec hsole hndI ha
      obtain rfl : e = { w.eff with mods := [] } := List.mem_singleton.1 he
      have hG := gatherOutcome_boost hact rfl hbuff hres hany hbm hone hv specImmune
      simp only [List.any_map, List.countP_map, List.length_map, Function.comp_def, eval_selProjected_spec]
        at honce hobs hinc
      subst hobs hinc
      simp only [FleetRow.cases, ha, FleetRow.tally, ← hlen, List.length_map]
      have hc (p : Item × ItemType) (hp : p ∈ w.cfg.items.zip w.types) := contains_chosen hnd
        (fun x tx => (boostTargets w.cfg a.fit).any fun tg => affectsProjected w.cfg a m tg x tx) hp
      refine Tally.map _ false (fun p hp => ⟨hty p hp, (hc p hp).symm, (hc p hp).symm, ⟨bms, hbm, ?_⟩, ⟨v, hv, ?_⟩⟩)
        hc fun _ _ => rfl
      · exact (List.mem_filter.1 (hone ▸ List.mem_cons_self : m ∈ bms.filter _)).1
      · rw [hG, hc p hp]
        cases hs : (boostTargets w.cfg a.fit).any fun tg => affectsProjected w.cfg a m tg p.1 p.2
        · rw [List.countP_eq_zero.2 fun tg htg => by simpa using List.any_eq_false.1 hs tg htg]; rfl
        · rw [honce.elim (fun hl => Nat.le_antisymm (Nat.le_trans List.countP_le_length hl)
            (List.countP_pos_iff.2 (List.any_eq_true.1 hs))) (· p (List.mem_filter.2 ⟨hp, hs⟩))]
          rfl
    · cases h

theorem fleetBlockOk_spec {rows : List FleetRow} {n k : Nat} (h : fleetBlockOk rows n k = true) :
    Tally FleetGood (·.obs) (fun _ => false) (fleetCasesOf rows) n k 0 :=
  blockOkBy_spec h fun _ => FleetRow.ok_spec

theorem fleet_table : Tally FleetGood (·.obs) (fun _ => false) fleetCases fleetCaseCount fleetBoostedCount 0 :=
  (fleetBlockOk_spec fleet_block0_ok).cons <| (fleetBlockOk_spec fleet_block1_ok).cons <|
  (fleetBlockOk_spec fleet_block2_ok).cons <| (fleetBlockOk_spec fleet_block3_ok).cons <|
  (fleetBlockOk_spec fleet_block4_ok).cons <| (fleetBlockOk_spec fleet_block5_ok).cons <| .nil _

end Eos.C13
