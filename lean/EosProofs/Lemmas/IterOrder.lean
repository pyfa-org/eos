import EosProofs.Lemmas.MicroAssembly
/-! What the specification and the message-level calculation compute does not depend on how the items of the
configuration, the modifiers of an effect and the effect ids of an item type are listed.

`World.gather` and `Micro.gatherD` are folds, over a flat list, of a step that skips, appends one modification or
fails.  Such a fold sees its list only through the list of outcomes; permuting the outcomes permutes the result and
may change *which* error is reported: the relation `RelOut`.  `calculate` does not see the order of the gathered list
and every error is an error answer (`IsErr`), so related gatherings give values that are equal or both errors:
`RelVal`.  Rank well-formedness excludes `notWF`, so along the rank order the values are equal and the tables answer
every look-up alike. -/
namespace Eos.C08World
open Eos.World Eos.Micro Eos.Micro.L

variable {u : Universe} {cfg cfg' : Config} {immune limited : List Int} {pen : Nat → Rat}

/-- Equal values, or an error answer on both sides — `divZero` on one and `notWF` on the other is allowed: the
gathering stops at the first error it meets, and which one that is depends on the order. -/
def RelVal (v v' : Val) : Prop := v = v' ∨ (IsErr v ∧ IsErr v')

theorem RelVal.eq_of_ne_notWF {v v' : Val} (h : RelVal v v') (h1 : v ≠ .notWF) (h2 : v' ≠ .notWF) : v = v' := by
  rcases h with h | ⟨e1 | e1, e2 | e2⟩
  · exact h
  · rw [e1, e2]
  · exact absurd e2 h2
  · exact absurd e1 h1
  · exact absurd e1 h1

theorem RelVal.valToOption {v v' : Val} (h : RelVal v v') : valToOption v = valToOption v' := by
  rcases h with h | ⟨e1, e2⟩
  · rw [h]
  · rcases e1 with e1 | e1 <;> rcases e2 with e2 | e2 <;> rw [e1, e2] <;> rfl

/-- `ψ` re-lists the item's type (for `reorderEffs`; `id` otherwise). -/
theorem relVal_valueOf {u u' : Universe} {cfg cfg' : Config} {immune limited : List Int} {pen : Nat → Rat}
    (ψ : ItemType → ItemType) (rd : Reader) (x : Item) (am : AttrMeta)
    (hty : itemType? u' cfg' x = (itemType? u cfg x).map ψ)
    (hb : ∀ tx, World.baseOf (ψ tx) am = World.baseOf tx am)
    (hg : ∀ tx, RelOut (gather u cfg immune rd x tx am.id) (gather u' cfg' immune rd x (ψ tx) am.id)) :
    RelVal (valueOf u cfg immune limited pen rd x am) (valueOf u' cfg' immune limited pen rd x am) :=
  (valueWith_rel ψ hty hb fun tx _ => hg tx).imp id fun ⟨_, h1, h2⟩ => ⟨gather_err_kind h1, gather_err_kind h2⟩

/-- Mind the direction of `items`: from `cfg'` to `cfg`. -/
structure ItemsPerm (cfg cfg' : Config) : Prop where
  items : cfg'.items.Perm cfg.items
  fits : cfg'.fits = cfg.fits
  source : cfg'.hasSource = cfg.hasSource

theorem ItemsPerm.refl (cfg : Config) : ItemsPerm cfg cfg := ⟨List.Perm.refl _, rfl, rfl⟩

theorem ItemsPerm.uniqueIds (E : ItemsPerm cfg cfg') (hU : UniqueIds cfg) : UniqueIds cfg' := by
  unfold UniqueIds at hU ⊢
  exact ((E.items.map _).nodup_iff).2 hU

/-- A configuration with its items listed in another order is the same configuration with another item list:
whatever does not look at `.items` is then literally the same term. -/
theorem ItemsPerm.exists_eq (E : ItemsPerm cfg cfg') : ∃ l', l'.Perm cfg.items ∧ cfg' = { cfg with items := l' } := by
  obtain ⟨hs, fs, is⟩ := cfg
  obtain ⟨hs', fs', is'⟩ := cfg'
  obtain ⟨hp, hf, hs⟩ := E
  cases hf; cases hs
  exact ⟨is', hp, rfl⟩

/-! Apart from being iterated over, the item list is looked at in two ways: look-up by id, and "is there a `p`
among the container / contents of `a`".  The `_with` lemmas are for use after `ItemsPerm.exists_eq` (configuration
`{ cfg with items := l' }`); `_perm` are the same facts for an `ItemsPerm` at hand. -/

theorem item?_with {l' : List Item} (hp : l'.Perm cfg.items) (hU : UniqueIds cfg) :
    item? { cfg with items := l' } = item? cfg := by
  funext i
  unfold item?
  exact (find?_perm_unique hp.symm _ fun a ha b hb h1 h2 =>
    eq_of_nodup_map (fun y : Item => y.id) (l := cfg.items) hU ha hb
      (by rw [beq_iff_eq.1 h1, beq_iff_eq.1 h2])).symm

theorem others_any_with {l' : List Item} (hp : l'.Perm cfg.items) (a : Item) (p : Item → Bool) :
    (others { cfg with items := l' } a).any p = (others cfg a).any p :=
  (hp.filter _).any_eq

theorem affectsLocal_with {l' : List Item} (hp : l'.Perm cfg.items) :
    affectsLocal { cfg with items := l' } = affectsLocal cfg := by
  funext a m x tx
  unfold affectsLocal
  rw [others_any_with hp]
  rfl

theorem projectionTargets_with {l' : List Item} (hp : l'.Perm cfg.items) (hU : UniqueIds cfg) :
    projectionTargets { cfg with items := l' } = projectionTargets cfg := by
  funext a e
  unfold projectionTargets
  rw [item?_with hp hU]

theorem boostTargets_with {l' : List Item} (hp : l'.Perm cfg.items) (hU : UniqueIds cfg) :
    boostTargets { cfg with items := l' } = boostTargets cfg := by
  funext f
  unfold boostTargets
  rw [item?_with hp hU]
  rfl

theorem resistOf_with {l' : List Item} (hp : l'.Perm cfg.items) (hU : UniqueIds cfg) :
    resistOf { cfg with items := l' } = resistOf cfg := by
  funext rd e x
  unfold resistOf
  rw [item?_with hp hU]
  rfl

theorem specOut_with {l' : List Item} (hp : l'.Perm cfg.items) (hU : UniqueIds cfg) :
    specOut { cfg with items := l' } = specOut cfg := by
  funext rd x imm s
  unfold specOut
  rw [resistOf_with hp hU]

theorem item?_perm (E : ItemsPerm cfg cfg') (hU : UniqueIds cfg) : item? cfg' = item? cfg := by
  obtain ⟨l', hp, rfl⟩ := E.exists_eq
  exact item?_with hp hU

theorem itemType?_perm (E : ItemsPerm cfg cfg') : itemType? u cfg' = itemType? u cfg := by
  obtain ⟨l', _, rfl⟩ := E.exists_eq
  rfl

theorem relOut_gather_items (E : ItemsPerm cfg cfg') (hU : UniqueIds cfg) (immune : List Int) (rd : Reader)
    (x : Item) (tx : ItemType) (attr : Int) :
    RelOut (gather u cfg immune rd x tx attr) (gather u cfg' immune rd x tx attr) := by
  obtain ⟨l', hp, rfl⟩ := E.exists_eq
  have h1 : effAtoms u { cfg with items := l' } rd x tx attr = effAtoms u cfg rd x tx attr := by
    unfold effAtoms specsW boostSpecsW
    rw [affectsLocal_with hp, projectionTargets_with hp hU, boostTargets_with hp hU]
    rfl
  have h2 : atomOut u { cfg with items := l' } immune rd x attr = atomOut u cfg immune rd x attr := by
    funext t
    unfold atomOut
    rw [specOut_with hp hU]
    rfl
  rw [gather_eq_atoms, gather_eq_atoms, h2]
  refine foldlM_stepS_outs_perm (List.Perm.map _ ?_)
  unfold gatherAtoms
  rw [h1]
  exact hp.symm.flatMap_right _

theorem valueOf_items_perm (E : ItemsPerm cfg cfg') (hU : UniqueIds cfg) (immune limited : List Int)
    (pen : Nat → Rat) (rd : Reader) (x : Item) (am : AttrMeta) :
    RelVal (valueOf u cfg immune limited pen rd x am) (valueOf u cfg' immune limited pen rd x am) :=
  relVal_valueOf id rd x am (by rw [itemType?_perm E, Option.map_id]; rfl) (fun _ => rfl)
    fun tx => relOut_gather_items E hU immune rd x tx am.id

theorem rows_get_perm (E : ItemsPerm cfg cfg') (hU : UniqueIds cfg) (k : Int) (F F' : Item → Val)
    (hF : ∀ x ∈ cfg.items, F x = F' x) (i : Nat) (a : Int) :
    Table.get (cfg.items.map fun y => ((y.id, k), F y)) i a =
      Table.get (cfg'.items.map fun y => ((y.id, k), F' y)) i a := by
  rw [rows_get_eq, rows_get_eq, item?_perm E hU]
  cases hi : item? cfg i with
  | none => rfl
  | some x => rw [Option.map_some, Option.map_some, hF x (item?_mem hi)]

theorem readDep_congr {u' : Universe} (ha : u'.attrs = u.attrs) {t t' : Table} (h : ∀ i a, t.get i a = t'.get i a) :
    readDep u t = readDep u' t' := by
  funext y a
  unfold readDep attrMeta?
  rw [h, ha]

private theorem evalAll_fold_rel {u' : Universe} (hwf : RankWF u) (hwf' : RankWF u') (hattrs : u'.attrs = u.attrs)
    (E : ItemsPerm cfg cfg') (hU : UniqueIds cfg)
    (hval : ∀ (rd : Reader) (x : Item) (am : AttrMeta),
      RelVal (valueOf u cfg immune limited pen rd x am) (valueOf u' cfg' immune limited pen rd x am))
    (rest : List AttrMeta) :
    ∀ (pre : List AttrMeta) (t t' : Table), u.attrs = pre ++ rest →
      TableOK cfg (pre.map (·.id)) t → TableOK cfg' (pre.map (·.id)) t' → (∀ i a, t.get i a = t'.get i a) →
      ∀ i a, (rest.foldl (tblStep u cfg immune limited pen) t).get i a =
        (rest.foldl (tblStep u' cfg' immune limited pen) t').get i a := by
  induction rest with
  | nil => intro _ _ _ _ _ _ h; exact h
  | cons am rest ih =>
    intro pre t t' hsplit hok hok' hget
    rw [List.foldl_cons, List.foldl_cons]
    have hrd := readDep_congr (u := u) hattrs hget
    have hr := hwf pre am rest hsplit
    have hr' := hwf' pre am rest (hattrs.trans hsplit)
    have hs1 := evalAll_step hok immune limited pen am hr
    have hs2 := evalAll_step hok' immune limited pen am hr'
    refine ih (pre ++ [am]) _ _ (by simp [hsplit]) (by rw [List.map_append]; exact hs1)
      (by rw [List.map_append]; exact hs2) fun i a => ?_
    unfold tblStep
    rw [Table.get_append, Table.get_append, hget]
    refine congrArg _ (rows_get_perm E hU am.id _ _ (fun x hx => ?_) i a)
    have n1 := valueOf_ne_notWF hok immune limited pen hx am hr
    have n2 := valueOf_ne_notWF hok' immune limited pen (E.items.mem_iff.2 hx) am hr'
    rw [← hrd] at n2 ⊢
    exact (hval _ x am).eq_of_ne_notWF n1 n2

/-- Two universes because `reorderMods` / `reorderEffs` change the universe; `hval` is the one-level fact. -/
theorem evalAll_get_rel {u' : Universe} (hwf : rankWF u = true) (hwf' : rankWF u' = true) (hattrs : u'.attrs = u.attrs)
    (E : ItemsPerm cfg cfg') (hU : UniqueIds cfg)
    (hval : ∀ (rd : Reader) (x : Item) (am : AttrMeta),
      RelVal (valueOf u cfg immune limited pen rd x am) (valueOf u' cfg' immune limited pen rd x am))
    (i : Nat) (a : Int) :
    (evalAll u cfg immune limited pen).get i a = (evalAll u' cfg' immune limited pen).get i a := by
  rw [evalAll_eq_foldl, evalAll_eq_foldl, hattrs]
  exact evalAll_fold_rel ((rankWF_iff u).1 hwf) ((rankWF_iff u').1 hwf') hattrs E hU hval u.attrs [] [] [] rfl
    ⟨fun _ h => (by cases h), fun _ _ _ h => (by cases h)⟩ ⟨fun _ h => (by cases h), fun _ _ _ h => (by cases h)⟩
    (fun _ _ => rfl) i a

theorem evalAll_get_perm (hwf : rankWF u = true) (E : ItemsPerm cfg cfg') (hU : UniqueIds cfg) (i : Nat) (a : Int) :
    (evalAll u cfg immune limited pen).get i a = (evalAll u cfg' immune limited pen).get i a :=
  evalAll_get_rel hwf hwf rfl E hU
    (fun rd x am => valueOf_items_perm E hU immune limited pen rd x am) i a

theorem evalAll_get_of_mem (hun : UniqueAttrs u) (hc : UniqueIds cfg) {e : (Nat × Int) × Val}
    (he : e ∈ evalAll u cfg immune limited pen) :
    (evalAll u cfg immune limited pen).get e.1.1 e.1.2 = some e.2 := by
  rw [evalAll_eq_foldl] at he ⊢
  rcases tbl_mem u.attrs [] he with h | ⟨p1, amb, p2, hl, y, hy, rfl⟩
  · cases h
  · exact tbl_get hc hl hun hy

theorem noDivZero_perm (hwf : rankWF u = true) (hun : UniqueAttrs u) (E : ItemsPerm cfg cfg') (hU : UniqueIds cfg)
    (hnz : ∀ entry ∈ evalAll u cfg immune limited pen, entry.2 ≠ .divZero) :
    ∀ entry ∈ evalAll u cfg' immune limited pen, entry.2 ≠ .divZero := by
  intro e he
  have h := evalAll_get_of_mem hun (E.uniqueIds hU) he
  rw [← evalAll_get_perm hwf E hU] at h
  obtain ⟨e0, he0, h0⟩ := Table.get_mem h
  rw [← h0]
  exact hnz e0 he0

theorem derivedDyn_perm {cfg cfg' : Config} (E : ItemsPerm cfg cfg') (hU : UniqueIds cfg) :
    derivedDyn u cfg' = derivedDyn u cfg := by
  obtain ⟨l', hp, rfl⟩ := E.exists_eq
  unfold derivedDyn
  rw [item?_with hp hU, projectionTargets_with hp hU]
  rfl

theorem buffSettled_perm (hwf : rankWF u = true) (E : ItemsPerm cfg cfg') (hU : UniqueIds cfg)
    {d : Dyn} (h : BuffSettled u cfg immune limited pen d) : BuffSettled u cfg' immune limited pen d := by
  have hR : World.read (evalAll u cfg' immune limited pen) = World.read (evalAll u cfg immune limited pen) := by
    funext x a
    unfold World.read
    rw [evalAll_get_perm hwf E hU]
  have hD := derivedDyn_perm (u := u) E hU
  unfold BuffSettled at h ⊢
  rw [hR]
  obtain ⟨l', hp, rfl⟩ := E.exists_eq
  refine ⟨hD ▸ h.loaded, hD ▸ h.on, fun a ha e he hb => hD ▸ h.tgts a (hp.mem_iff.1 ha) e he hb,
    fun a ha e he hb => ?_⟩
  rw [boostTargets_with hp hU]
  exact h.payload a (hp.mem_iff.1 ha) e he hb

def reMods (σ : Effect → List Modifier) (e : Effect) : Effect := { e with mods := σ e }
def reorderMods (σ : Effect → List Modifier) (u : Universe) : Universe :=
  { u with effects := u.effects.map (reMods σ) }
def reEffs (τ : ItemType → List Int) (ty : ItemType) : ItemType := { ty with effects := τ ty }
def reorderEffs (τ : ItemType → List Int) (u : Universe) : Universe :=
  { u with types := u.types.map (reEffs τ) }

theorem effect?_reorderMods (σ : Effect → List Modifier) (i : Int) :
    effect? (reorderMods σ u) i = (effect? u i).map (reMods σ) := by
  unfold effect? reorderMods
  rw [List.find?_map]
  rfl

theorem runningEffects_reorderMods (σ : Effect → List Modifier) (a : Item) :
    runningEffects (reorderMods σ u) cfg a = (runningEffects u cfg a).map (reMods σ) :=
  runningEffects_map (u := u) (u' := reorderMods σ u) (reMods σ) rfl (effect?_reorderMods σ) (fun _ => rfl)
    (fun _ _ _ _ => rfl) a

theorem gatherReads_reorderMods {σ : Effect → List Modifier} (hσ : ∀ e ∈ u.effects, (σ e).Perm e.mods) (attr : Int) :
    (gatherReads (reorderMods σ u) attr).Perm (gatherReads u attr) := by
  unfold gatherReads
  show List.Perm ((u.effects.map (reMods σ)).flatMap _ ++ (u.effects.map (reMods σ)).filterMap _ ++ _) _
  rw [List.flatMap_map, List.filterMap_map]
  refine ((List.Perm.flatMap_left _ fun e he => ((hσ e he).filter _).map _).append ?_).append (List.Perm.refl _)
  rw [List.filterMap_congr fun e he => ?_]
  show (if (σ e).any (·.tgtAttr == attr) || _ then _ else _) = _
  rw [(hσ e he).any_eq]
  rfl

theorem rankWF_reorderMods {σ : Effect → List Modifier} (hσ : ∀ e ∈ u.effects, (σ e).Perm e.mods)
    (hwf : rankWF u = true) : rankWF (reorderMods σ u) = true :=
  (rankWF_iff _).2 fun pre am post hs a ha hsome => (rankWF_iff u).1 hwf pre am post hs a
    (List.mem_append.2 ((List.mem_append.1 ha).imp_right (gatherReads_reorderMods hσ am.id).mem_iff.1)) hsome

theorem rankWF_reorderEffs (τ : ItemType → List Int) (hwf : rankWF u = true) : rankWF (reorderEffs τ u) = true :=
  (rankWF_iff _).2 ((rankWF_iff u).1 hwf)

theorem effAtoms_reMods {σ : Effect → List Modifier} {e : Effect} (he : (σ e).Perm e.mods) (immune : List Int)
    (rd : Reader) (x : Item) (tx : ItemType) (attr : Int) (a : Item) :
    ((effAtoms u cfg rd x tx attr a e).map (atomOut u cfg immune rd x attr)).Perm
      ((effAtoms (reorderMods σ u) cfg rd x tx attr a (reMods σ e)).map
        (atomOut (reorderMods σ u) cfg immune rd x attr)) := by
  -- the outcome of a spec does not see the modifier list of its effect nor the universe: the two functions mapped
  -- below are the same by `rfl`
  have hm : ∀ (l l' : List Modifier) (tg : Option Item), l'.Perm l →
      (l.map (atomOut u cfg immune rd x attr ∘ GAtom.spec ∘ fun m => ⟨a, e, m, tg⟩)).Perm
        (l'.map (atomOut (reorderMods σ u) cfg immune rd x attr ∘ GAtom.spec ∘ fun m => ⟨a, reMods σ e, m, tg⟩)) :=
    fun l l' tg hp => hp.symm.map _
  unfold effAtoms specsW boostSpecsW
  simp only [List.map_append, List.map_flatMap, List.map_map]
  refine (List.Perm.append ?_ ?_).append ?_
  · exact hm _ _ none (he.filter _)
  · exact List.Perm.flatMap_left _ fun tg _ => hm _ _ (some tg) (he.filter _)
  · show List.Perm (List.map _ (if e.isBuff then _ else _)) (List.map _ (if e.isBuff then _ else _))
    cases e.isBuff with
    | false => exact .nil
    | true =>
      simp only [if_true, List.map_cons, List.map_flatMap, List.map_map]
      exact List.Perm.cons _ (List.Perm.flatMap_left _ fun tg _ => hm _ _ (some tg)
        (((List.Perm.refl (bmsOf u rd attr a)).append (he.filter _)).filter _))

theorem relOut_gather_reorderMods {σ : Effect → List Modifier} (hσ : ∀ e ∈ u.effects, (σ e).Perm e.mods)
    (immune : List Int) (rd : Reader) (x : Item) (tx : ItemType) (attr : Int) :
    RelOut (gather u cfg immune rd x tx attr) (gather (reorderMods σ u) cfg immune rd x tx attr) := by
  rw [gather_eq_atoms, gather_eq_atoms]
  refine foldlM_stepS_outs_perm ?_
  unfold gatherAtoms
  simp only [List.map_flatMap, runningEffects_reorderMods, List.flatMap_map]
  exact List.Perm.flatMap_left _ fun a _ => List.Perm.flatMap_left _ fun e he =>
    effAtoms_reMods (hσ e (runningEffects_mem he)) immune rd x tx attr a

theorem type?_reorderEffs (τ : ItemType → List Int) (t : Int) :
    type? (reorderEffs τ u) t = (type? u t).map (reEffs τ) := by
  unfold type? reorderEffs
  rw [List.find?_map]
  rfl

theorem itemType?_reorderEffs (τ : ItemType → List Int) (a : Item) :
    itemType? (reorderEffs τ u) cfg a = (itemType? u cfg a).map (reEffs τ) := by
  unfold itemType?
  rw [type?_reorderEffs]
  cases cfg.hasSource <;> rfl

theorem itemType?_mem {a : Item} {ty : ItemType} (h : itemType? u cfg a = some ty) : ty ∈ u.types := by
  unfold itemType? at h
  split at h
  · exact List.mem_of_find?_eq_some h
  · cases h

theorem runningEffects_reorderEffs {τ : ItemType → List Int} (hτ : ∀ ty ∈ u.types, (τ ty).Perm ty.effects)
    (a : Item) : (runningEffects (reorderEffs τ u) cfg a).Perm (runningEffects u cfg a) := by
  unfold runningEffects
  rw [itemType?_reorderEffs]
  cases hty : itemType? u cfg a with
  | none => exact List.Perm.refl _
  | some ty =>
    have hp : ((τ ty).filterMap (effect? u)).Perm (ty.effects.filterMap (effect? u)) :=
      (hτ ty (itemType?_mem hty)).filterMap _
    have hfind : ((τ ty).filterMap (effect? u)).find? (·.id == 16) =
        (ty.effects.filterMap (effect? u)).find? (·.id == 16) := by
      -- an effect with id 16 among them is `effect? u 16`
      have key : ∀ e ∈ (τ ty).filterMap (effect? u), (e.id == 16) = true → effect? u 16 = some e := fun e he k => by
        obtain ⟨i, _, hi⟩ := List.mem_filterMap.1 he
        exact (effect?_id hi).symm.trans (beq_iff_eq.1 k) ▸ hi
      exact find?_perm_unique hp _ fun e1 h1 e2 h2 k1 k2 =>
        Option.some.inj ((key e1 h1 k1).symm.trans (key e2 h2 k2))
    show (((τ ty).filterMap (effect? u)).filter fun e => runsEffect a ty e
        (match ((τ ty).filterMap (effect? u)).find? (·.id == 16) with
          | some oe => runsEffect a ty oe false
          | none => false)).Perm _
    rw [hfind]
    exact hp.filter _

theorem relOut_gather_reorderEffs {τ : ItemType → List Int} (hτ : ∀ ty ∈ u.types, (τ ty).Perm ty.effects)
    (immune : List Int) (rd : Reader) (x : Item) (tx : ItemType) (attr : Int) :
    RelOut (gather u cfg immune rd x tx attr)
      (gather (reorderEffs τ u) cfg immune rd x (reEffs τ tx) attr) := by
  have hout : atomOut (reorderEffs τ u) cfg immune rd x attr = atomOut u cfg immune rd x attr := by
    funext t
    cases t with
    | buffs a => rfl
    | spec s =>
      show specOut cfg rd x (immW _ cfg immune) s = specOut cfg rd x (immW u cfg immune) s
      congr 1; funext a
      unfold immW
      rw [itemType?_reorderEffs]
      cases itemType? u cfg a <;> rfl
  rw [gather_eq_atoms, gather_eq_atoms, hout]
  refine foldlM_stepS_outs_perm (List.Perm.map _ ?_)
  unfold gatherAtoms
  exact List.Perm.flatMap_left _ fun a _ => (runningEffects_reorderEffs hτ a).symm.flatMap_right _

theorem specsOn_items_perm (E : ItemsPerm cfg cfg') (hU : UniqueIds cfg) (d : Dyn) (x : Item) (tx : ItemType)
    (attr : Int) : (specsOn u cfg d x tx attr).Perm (specsOn u cfg' d x tx attr) := by
  obtain ⟨l', hp, rfl⟩ := E.exists_eq
  unfold specsOn allSpecs projSpecs targetsOf selects
  rw [item?_with hp hU, affectsLocal_with hp]
  exact (hp.symm.flatMap_right _).filter _

theorem specOut_perm (E : ItemsPerm cfg cfg') (hU : UniqueIds cfg) : specOut cfg' = specOut cfg := by
  obtain ⟨l', hp, rfl⟩ := E.exists_eq
  exact specOut_with hp hU

theorem evalD_items_perm (E : ItemsPerm cfg cfg') (hU : UniqueIds cfg) (d : Dyn) (n : Node)
    (f : Node → Option Rat) :
    evalD u cfg' d immune limited pen n f = evalD u cfg d immune limited pen n f := by
  unfold evalD
  rw [item?_perm E hU]
  cases item? cfg n.1 with
  | none => rfl
  | some x =>
    cases attrMeta? u n.2 with
    | none => rfl
    | some am =>
      refine RelVal.valToOption ?_
      rw [valueOfD_eq_with, valueOfD_eq_with]
      refine (valueWith_rel id (by rw [Option.map_id]; rfl) (fun _ => rfl) fun tx _ => ?_).imp id
        fun ⟨_, h1, h2⟩ => ⟨(gatherD_isErrOf h1).1, (gatherD_isErrOf h2).1⟩
      rw [gatherD_eq_fold, gatherD_eq_fold, specOut_perm E hU]
      exact foldlM_stepS_perm (specsOn_items_perm E hU d x tx am.id).symm fun _ _ => rfl

end Eos.C08World
