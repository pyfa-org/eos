import EosModel.WorldMicro
import EosProofs.Lemmas.ListFacts
/-! `World.resistOf` is stated through the message level's `Micro.carrierOf` (`resistOf_eq`), what `buffModifiers` builds
through `Micro.bspecOK` (`buffModifiers_ok`); that is why this file imports `EosModel/WorldMicro.lean` and why
`L.carrierOf_cases`, `resistRead_some`, `resistD_eq_resistOf`, `resistD_congr`, `bspecOK_iff` stand here under their
`Eos.Micro` names: the `resistOf_*` lemmas are corollaries of the first four. -/
namespace Eos.World
open Eos.Calc Eos.Micro

variable (u : Universe) (cfg : Config)

def Selects (rd : Reader) (x : Item) (tx : ItemType) (a : Item) (e : Effect) (m : Modifier) : Prop :=
  (m ∈ e.mods ∧ affectsLocal cfg a m x tx = true) ∨
  (m ∈ e.mods ∧ m.domain = 4 ∧ ∃ tg ∈ projectionTargets cfg a e, affectsProjected cfg a m tg x tx = true) ∨
  (e.isBuff = true ∧ ((∃ bms, buffModifiers u rd a = .ok bms ∧ m ∈ bms) ∨ (m ∈ e.mods ∧ m.domain = 4)) ∧
     ∃ tg ∈ boostTargets cfg a.fit, affectsProjected cfg a m tg x tx = true)

def mkMod (rd : Reader) (x a : Item) (e : Effect) (imm : Bool) (m : Modifier) (acc : List Mod) :
    Except Val (List Mod) :=
  match rd a m.srcAttr with
  | .absent => .ok acc
  | .ok v => (match resistOf cfg rd e x with
    | .ok r => .ok (acc ++ [{ op := m.op, value := v, resist := r, agg := m.agg, aggKey := m.aggKey, immune := imm }])
    | w => .error w)
  | w => .error w

def effStep (immune : List Int) (rd : Reader) (x : Item) (tx : ItemType) (attr : Int) (a : Item) (ta : ItemType)
    (acc : List Mod) (e : Effect) : Except Val (List Mod) := do
  let imm := match ta.category with | some c => immune.contains c | none => false
  let acc ← (e.mods.filter fun m => m.tgtAttr == attr && affectsLocal cfg a m x tx).foldlM (init := acc)
    fun acc m => mkMod cfg rd x a e imm m acc
  let acc ← (projectionTargets cfg a e).foldlM (init := acc) fun acc tg =>
    (e.mods.filter fun m => m.domain == 4 && m.tgtAttr == attr && affectsProjected cfg a m tg x tx).foldlM
      (init := acc) fun acc m => mkMod cfg rd x a e imm m acc
  if e.isBuff then do
    let bms ← (if u.buffs.any (·.tgtAttr == attr) then buffModifiers u rd a else pure [])
    let bms := bms ++ e.mods.filter (·.domain == 4)
    (boostTargets cfg a.fit).foldlM (init := acc) fun acc tg =>
      (bms.filter fun m => m.tgtAttr == attr && affectsProjected cfg a m tg x tx).foldlM
        (init := acc) fun acc m => mkMod cfg rd x a e imm m acc
  else pure acc

theorem gather_eq (immune : List Int) (rd : Reader) (x : Item) (tx : ItemType) (attr : Int) :
    gather u cfg immune rd x tx attr = cfg.items.foldlM (init := []) fun acc a =>
      match itemType? u cfg a with
      | none => .ok acc
      | some ta => (runningEffects u cfg a).foldlM (init := acc) (effStep u cfg immune rd x tx attr a ta) := by rfl

variable {u cfg}

theorem item?_mem {i : Nat} {c : Item} (h : item? cfg i = some c) : c ∈ cfg.items :=
  List.mem_of_find?_eq_some h

theorem effect?_id {i : Int} {e : Effect} (h : effect? u i = some e) : e.id = i := by
  simpa using List.find?_some h

theorem runningEffects_mem {a : Item} {e : Effect} (h : e ∈ runningEffects u cfg a) : e ∈ u.effects := by
  unfold runningEffects at h
  split at h
  · cases h
  · obtain ⟨i, _, hi⟩ := List.mem_filterMap.1 (List.mem_filter.1 h).1
    exact List.mem_of_find?_eq_some hi

theorem itemType?_of_running {a : Item} {e : Effect} (he : e ∈ runningEffects u cfg a) :
    ∃ ta, itemType? u cfg a = some ta := by
  unfold runningEffects at he
  split at he
  · cases he
  · exact ⟨_, ‹_›⟩

theorem runningEffects_map {u u' : Universe} {cfg : Config} (σ : Effect → Effect) (ht : u'.types = u.types)
    (he : ∀ i, effect? u' i = (effect? u i).map σ) (hid : ∀ e, (σ e).id = e.id)
    (hσ : ∀ it ty e on, runsEffect it ty (σ e) on = runsEffect it ty e on) (it : Item) :
    runningEffects u' cfg it = (runningEffects u cfg it).map σ := by
  have hty : itemType? u' cfg it = itemType? u cfg it := by simp only [itemType?, type?, ht]
  unfold runningEffects
  rw [hty]
  cases itemType? u cfg it with
  | none => rfl
  | some ty =>
    have h1 : ty.effects.filterMap (effect? u') = (ty.effects.filterMap (effect? u)).map σ := by
      rw [List.map_filterMap, funext he]
    simp only [h1, List.find?_map, List.filter_map, Function.comp_def, hσ, hid]
    -- `runningEffects` first looks the `online` effect (id 16) up among the type's effects: `σ` keeps ids
    cases (ty.effects.filterMap (effect? u)).find? (fun x => x.id == 16) <;> simp [hσ]

theorem resistOf_eq (rd : Reader) (e : Effect) (x : Item) :
    resistOf cfg rd e x =
      match e.resistAttr with
      | none => .ok 1
      | some r =>
        if r == 0 then .ok 1 else
        match carrierOf cfg x with
        | none => .ok 1
        | some c => match rd c r with
          | .absent => .ok 1
          | v => v := rfl

theorem bind_item?_mem {o : Option Nat} {c : Item} (h : o.bind (item? cfg) = some c) : c ∈ cfg.items := by
  obtain ⟨i, _, hi⟩ := Option.bind_eq_some_iff.1 h
  exact item?_mem hi

def Kind.isModule : Kind → Bool
  | .moduleHigh | .moduleMid | .moduleLow => true
  | _ => false

def Kind.isCharge : Kind → Bool
  | .charge | .autocharge => true
  | _ => false

theorem _root_.Eos.Micro.L.carrierOf_cases {x c : Item} (h : carrierOf cfg x = some c) :
    (x.kind.isSolsys = true ∧ c = x) ∨
    (x.kind.modDomain = some 3 ∧ x.kind.isCharge = false ∧ (shipOf cfg x.fit).bind (item? cfg) = some c) ∨
    (x.kind.isCharge = true ∧ ∃ p, x.parent.bind (item? cfg) = some p ∧
      ((p.kind = .drone ∨ p.kind = .fighter) ∧ c = p ∨
        p.kind.isModule = true ∧ (shipOf cfg p.fit).bind (item? cfg) = some c)) := by
  unfold carrierOf at h
  generalize x.kind = k at h ⊢
  cases k
  case ship | drone | fighter => exact .inl ⟨rfl, (Option.some.inj h).symm⟩
  case moduleHigh | moduleMid | moduleLow | rig | stance | subsystem => exact .inr (.inl ⟨rfl, rfl, h⟩)
  case charge | autocharge =>
    obtain ⟨p, hp, h⟩ := Option.bind_eq_some_iff.1 h
    refine .inr (.inr ⟨rfl, p, hp, ?_⟩)
    split at h
    case h_1 hp => exact .inl ⟨.inl hp, (Option.some.inj h).symm⟩
    case h_2 hp => exact .inl ⟨.inr hp, (Option.some.inj h).symm⟩
    case h_3 hp | h_4 hp | h_5 hp => exact .inr ⟨hp ▸ rfl, h⟩
    case h_6 => cases h
  all_goals cases h

theorem carrierOf_mem {x c : Item} (h : carrierOf cfg x = some c) : c = x ∨ c ∈ cfg.items := by
  rcases L.carrierOf_cases h with ⟨_, h⟩ | ⟨_, _, h⟩ | ⟨_, p, hp, ⟨_, h⟩ | ⟨_, h⟩⟩
  · exact Or.inl h
  · exact Or.inr (bind_item?_mem h)
  · exact Or.inr (h ▸ bind_item?_mem hp)
  · exact Or.inr (bind_item?_mem h)

theorem _root_.Eos.Micro.resistRead_some {e : Effect} {x c : Item} {r : Int} (h : resistRead cfg e x = some (c, r)) :
    e.resistAttr = some r ∧ r ≠ 0 ∧ carrierOf cfg x = some c := by
  unfold resistRead at h
  split at h
  · cases h
  · rename_i r' hr
    split at h
    · cases h
    · rename_i h0
      obtain ⟨c', hc, heq⟩ := Option.map_eq_some_iff.1 h
      cases heq
      exact ⟨hr, by simpa using h0, hc⟩

theorem _root_.Eos.Micro.resistD_eq_resistOf (rd : Reader) (e : Effect) (x : Item) :
    resistD cfg rd e x = resistOf cfg rd e x := by
  rw [resistOf_eq]
  unfold resistD resistRead
  cases e.resistAttr with
  | none => rfl
  | some r =>
    dsimp only
    cases r == 0
    · cases carrierOf cfg x <;> rfl
    · rfl

theorem _root_.Eos.Micro.resistD_congr {rd rd' : Reader} {e : Effect} {x : Item}
    (h : ∀ c r, resistRead cfg e x = some (c, r) → rd c r = rd' c r) :
    resistD cfg rd e x = resistD cfg rd' e x := by
  unfold resistD
  cases hr : resistRead cfg e x with
  | none => rfl
  | some p => obtain ⟨c, r⟩ := p; simp only [h c r hr]

theorem resistOf_cases (rd : Reader) (e : Effect) (x : Item) :
    resistOf cfg rd e x = .ok 1 ∨
      ∃ c r, e.resistAttr = some r ∧ r ≠ 0 ∧ (c = x ∨ c ∈ cfg.items) ∧ rd c r = resistOf cfg rd e x ∧
        rd c r ≠ .absent := by
  rw [← resistD_eq_resistOf]; unfold resistD
  cases hr : resistRead cfg e x with
  | none => exact Or.inl rfl
  | some p =>
    obtain ⟨c, r⟩ := p
    obtain ⟨h1, h0, hc⟩ := resistRead_some hr
    dsimp only
    split
    · exact Or.inl rfl
    · exact Or.inr ⟨c, r, h1, h0, carrierOf_mem hc, rfl, ‹_›⟩

theorem resistOf_congr {rd rd' : Reader} {e : Effect} {x : Item}
    (h : ∀ c r, e.resistAttr = some r → r ≠ 0 → (c = x ∨ c ∈ cfg.items) → rd c r = rd' c r) :
    resistOf cfg rd e x = resistOf cfg rd' e x := by
  rw [← resistD_eq_resistOf, ← resistD_eq_resistOf]
  exact resistD_congr fun c r hr =>
    h c r (resistRead_some hr).1 (resistRead_some hr).2.1 (carrierOf_mem (resistRead_some hr).2.2)

/-- The (buff id attribute, buff value attribute) pairs `buffModifiers` walks through. -/
def buffPairs : List (Int × Int) := [(2468, 2469), (2470, 2471), (2472, 2473), (2536, 2537)]

theorem buffPairs_snd_mem : ∀ p ∈ buffPairs, p.2 ∈ buffAttrs := by decide

theorem _root_.Eos.Micro.bspecOK_iff {m : Modifier} : bspecOK u m = true ↔
    m.domain = 4 ∧ m.srcAttr ∈ buffAttrs ∧ u.buffs.any (·.tgtAttr == m.tgtAttr) = true := by
  simp only [bspecOK, Bool.and_eq_true, beq_iff_eq, List.contains_iff_mem, and_assoc]

/-- What `buffModifiers` builds is well-formed payload in the sense of the message level. -/
theorem buffModifiers_ok {rd : Reader} {a : Item} {bms : List Modifier} (h : buffModifiers u rd a = .ok bms) :
    ∀ m ∈ bms, bspecOK u m = true := by
  unfold buffModifiers at h
  refine foldlM_except_inv (fun acc => ∀ m ∈ acc, bspecOK u m = true) _ _ [] bms (fun _ hm => by cases hm) ?_ h
  intro acc p acc' hp hacc hf
  split at hf
  · cases hf
    intro m hm
    rcases List.mem_append.1 hm with hm | hm
    · exact hacc m hm
    · obtain ⟨bt, hbt, rfl⟩ := List.mem_map.1 hm
      exact bspecOK_iff.2 ⟨rfl, buffPairs_snd_mem p hp,
        List.any_eq_true.2 ⟨bt, (List.mem_filter.1 hbt).1, beq_self_eq_true _⟩⟩
  · cases hf; exact hacc
  · cases hf

def IsErr (w : Val) : Prop := w = .divZero ∨ w = .notWF

def IsErrOf (rd : Reader) (w : Val) : Prop := IsErr w ∧ ∃ y a, rd y a = w

theorem IsErr.ne_absent {w : Val} (h : IsErr w) : w ≠ .absent := by
  rcases h with rfl | rfl <;> exact Val.noConfusion

theorem isErr_of_ne {w : Val} (h1 : w ≠ .absent) (h2 : ∀ v, w ≠ .ok v) : IsErr w := by
  cases w with
  | absent => exact absurd rfl h1
  | ok v => exact absurd rfl (h2 v)
  | divZero => exact Or.inl rfl
  | notWF => exact Or.inr rfl

/-- The buff id attributes (they select the templates; the value attributes are modifier sources). -/
def buffIdAttrs : List Int := buffPairs.map (·.1)

theorem buffModifiers_error {rd : Reader} {a : Item} {w : Val} (h : buffModifiers u rd a = .error w) :
    IsErr w ∧ ∃ p ∈ buffIdAttrs, rd a p = w := by
  unfold buffModifiers at h
  refine foldlM_except_err (fun w => IsErr w ∧ ∃ p ∈ buffIdAttrs, rd a p = w) _ _ [] w ?_ h
  intro acc p e hp hf
  split at hf
  · cases hf
  · cases hf
  · cases hf
    rename_i h1 h2
    exact ⟨isErr_of_ne h2 h1, p.1, List.mem_map.2 ⟨p, hp, rfl⟩, rfl⟩

def baseOf (tx : ItemType) (am : AttrMeta) : Option Rat :=
  match tx.attrs.find? (·.1 == am.id) with
  | some p => some p.2
  | none => am.default

def capOf (rd : Reader) (x : Item) (am : AttrMeta) : Except Val (Option Rat) :=
  match am.maxAttr with
  | none => .ok none
  | some mx => match rd x mx with
    | .ok c => .ok (some c)
    | .absent => .ok none
    | v => .error v

/-- `World.valueOf` and `Micro.valueOfD` are this with their own type look-up and gathering (`valueOf_eq`,
`valueOfD_eq_with`). -/
def valueWith (limited : List Int) (pen : Nat → Rat) (rd : Reader) (x : Item) (am : AttrMeta)
    (ty : Option ItemType) (g : ItemType → Except Val (List Mod)) : Val :=
  if x.kind == .skill && am.id == 280 then (match x.level with | some l => .ok l | none => .absent) else
  match ty with
  | none => .absent
  | some tx =>
    match baseOf tx am with
    | none => .absent
    | some b =>
      match g tx with
      | .error v => v
      | .ok mods =>
        match capOf rd x am with
        | .error v => v
        | .ok cap =>
          match calculate pen am.stackable am.hig b mods cap (limited.contains am.id) with
          | .ok v => .ok v
          | .error _ => .divZero

theorem valueOf_eq (immune limited : List Int) (pen : Nat → Rat) (rd : Reader) (x : Item) (am : AttrMeta) :
    valueOf u cfg immune limited pen rd x am =
      valueWith limited pen rd x am (itemType? u cfg x) fun tx => gather u cfg immune rd x tx am.id := by rfl

theorem capOf_error {rd : Reader} {x : Item} {am : AttrMeta} {w : Val} (h : capOf rd x am = .error w) :
    IsErr w ∧ ∃ mx, am.maxAttr = some mx ∧ rd x mx = w := by
  unfold capOf at h
  split at h
  · cases h
  · rename_i mx hmx
    split at h
    · cases h
    · cases h
    · rename_i hok habs
      cases h
      exact ⟨isErr_of_ne habs hok, mx, hmx, rfl⟩

/-! ## A two-item world for non-vacuity examples (here because `Props/C02` and `Lemmas/MicroGraph` both use it)

A ship (type 1, category 6) with attribute 37 = 100 and a low-slot module (type 2) with attribute
20 = 3/2 whose passive effect 1000 post-multiplies the ship's attribute 37 by the module's attribute 20. -/
def exUniverse : Universe :=
  { attrs := [⟨20, none, none, true, false⟩, ⟨37, none, some 0, true, false⟩],
    effects := [⟨1000, 0, none, none, false, [⟨1, 3, none, 37, 6, 1, none, 20⟩]⟩],
    types := [⟨1, none, some 6, none, [(37, 100)], [], []⟩, ⟨2, none, some 7, none, [(20, 3/2)], [1000], []⟩] }
def exShip : Item := ⟨1, .ship, 1, 0, 1, none, none, none, []⟩
def exModule : Item := ⟨2, .moduleLow, 2, 0, 1, none, none, none, []⟩
def exConfig : Config :=
  { hasSource := true, fits := [⟨0, some 1, none, none⟩], items := [exShip, exModule] }

end Eos.World
