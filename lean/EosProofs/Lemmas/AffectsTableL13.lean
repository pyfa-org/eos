import EosGen.AffectsTableL13
namespace Eos.C02
open Eos.AffectsSpec EosGen.AffectsTable

theorem affects_blockL13_ok : localBlockOk blockL13 blockL13Cases blockL13Modified blockL13Valid = true := by decide +kernel

end Eos.C02
