import EosGen.AffectsTableL04
namespace Eos.C02
open Eos.AffectsSpec EosGen.AffectsTable

theorem affects_blockL04_ok : localBlockOk blockL04 blockL04Cases blockL04Modified blockL04Valid = true := by decide +kernel

end Eos.C02
