/-! Generic depth-first invalidation cascade and what it removes: exactly the cached entries reachable from the
visited nodes along `rdeps` through cached entries (`Reach`).

`visit` is `_force_recalc` of one node followed by what its `AttrsValueChanged` triggers; `casc` is the handler of
that message (`_revise_regular_attr_dependents`: visit every reverse dependency).  The fuel is an artefact of the
model (the code recurses freely); with fuel 0 `casc` is the identity, so every statement about *all* reached
entries carries a bound `B ≤ fuel`.

Relations between an old cache `K` and a new one `K'`:
* `Sub K K'` — `K'` is `K` with entries removed (values kept); it implies `Mono K K'` (cached in `K'` ⇒ cached in `K`);
* `Only rdeps K K' l` — removed entries are reached from `l` (any fuel: `visit_only`);
* `Covers rdeps K K' l` — `l` ends up uncached and `Closed rdeps K K'`: no reverse dependency of a removed entry
  stays cached (enough fuel: `casc_covers`);
* `Removes rdeps K K' l` — the two together: exactly the reached entries are removed (`Covers.reach`), which
  determines `K'` (`Removes.ext`); legality of a removal consumes its `Sub` and `Covers`. -/
namespace Eos.Cascade
variable {N V : Type}

abbrev Cache (N V : Type) := N → Option V

def Closed (rdeps : N → List N) (K0 K' : Cache N V) : Prop :=
  ∀ m, K0 m ≠ none → K' m = none → ∀ x, x ∈ rdeps m → K' x = none

def Mono (K K' : Cache N V) : Prop := ∀ x, K' x ≠ none → K x ≠ none

def Sub (K K' : Cache N V) : Prop := ∀ x, K' x = none ∨ K' x = K x

theorem mono_none {K K' : Cache N V} (h : Mono K K') {x : N} (hx : K x = none) : K' x = none := by
  cases hk : K' x with
  | none => rfl
  | some v => exact absurd hx (h x (by simp [hk]))

theorem Sub.mono {K K' : Cache N V} (h : Sub K K') : Mono K K' := fun x hx =>
  (h x).elim (fun h0 => absurd h0 hx) (fun h0 => h0 ▸ hx)

theorem Sub.refl (K : Cache N V) : Sub K K := fun _ => Or.inr rfl

theorem Sub.trans {K K' K'' : Cache N V} (h : Sub K K') (h' : Sub K' K'') : Sub K K'' := fun x =>
  (h' x).elim Or.inl fun h0 => (h x).imp h0.trans h0.trans

inductive Reach (rdeps : N → List N) (K : Cache N V) (l : List N) : N → Prop
  | direct {t : N} : t ∈ l → K t ≠ none → Reach rdeps K l t
  | step {m x : N} : Reach rdeps K l m → x ∈ rdeps m → K x ≠ none → Reach rdeps K l x

theorem Reach.cached {rdeps : N → List N} {K : Cache N V} {l : List N} {x : N} (h : Reach rdeps K l x) :
    K x ≠ none := by
  cases h <;> assumption

theorem Reach.imp {rdeps rdeps' : N → List N} {K K' : Cache N V} {l l' : List N}
    (hrd : ∀ m x, x ∈ rdeps m → x ∈ rdeps' m) (hK : Mono K' K)
    (hl : ∀ t ∈ l, K t ≠ none → Reach rdeps' K' l' t) {x : N} (h : Reach rdeps K l x) : Reach rdeps' K' l' x := by
  induction h with
  | direct ht hk => exact hl _ ht hk
  | step _ hx hk ih => exact .step ih (hrd _ _ hx) (hK _ hk)

def Only (rdeps : N → List N) (K K' : Cache N V) (l : List N) : Prop :=
  ∀ x, K' x = K x ∨ (K' x = none ∧ Reach rdeps K l x)

theorem Only.sub {rdeps : N → List N} {K K' : Cache N V} {l : List N} (h : Only rdeps K K' l) : Sub K K' :=
  fun x => (h x).elim Or.inr fun h0 => Or.inl h0.1

theorem fold_sub (v : Cache N V → N → Cache N V) (hs : ∀ K t, Sub K (v K t)) :
    ∀ (l : List N) (K : Cache N V), Sub K (l.foldl v K)
  | [], K => Sub.refl K
  | t :: l, K => (hs K t).trans (fold_sub v hs l (v K t))

theorem fold_only (rdeps : N → List N) (v : Cache N V → N → Cache N V) (hv : ∀ K t, Only rdeps K (v K t) [t]) :
    ∀ (l : List N) (K : Cache N V), Only rdeps K (l.foldl v K) l := by
  intro l
  induction l with
  | nil => exact fun _ _ => Or.inl rfl
  | cons t l ih =>
    intro K x
    rcases ih (v K t) x with h | ⟨h0, hr⟩
    · rw [List.foldl_cons, h]
      exact (hv K t x).imp_right fun h => ⟨h.1, h.2.imp (fun _ _ => id) (fun _ => id) fun _ ht hk =>
        .direct (List.mem_cons.2 (.inl (List.mem_singleton.1 ht))) hk⟩
    · exact .inr ⟨h0, hr.imp (fun _ _ => id) (hv K t).sub.mono fun _ ht hk =>
        .direct (List.mem_cons_of_mem _ ht) ((hv K t).sub.mono _ hk)⟩

def Covers (rdeps : N → List N) (K K' : Cache N V) (l : List N) : Prop :=
  (∀ x, x ∈ l → K' x = none) ∧ Closed rdeps K K'

theorem Covers.reach {rdeps : N → List N} {K K' : Cache N V} {l : List N} (h : Covers rdeps K K' l) {x : N}
    (hx : Reach rdeps K l x) : K' x = none := by
  induction hx with
  | direct ht _ => exact h.1 _ ht
  | step hm hx _ ih => exact h.2 _ hm.cached ih _ hx

theorem fold_covers (rdeps : N → List N) (v : Cache N V → N → Cache N V) (hs : ∀ K t, Sub K (v K t)) :
    ∀ (l : List N) (K : Cache N V), (∀ K' t, Sub K K' → t ∈ l → Covers rdeps K' (v K' t) [t]) →
      Covers rdeps K (l.foldl v K) l := by
  intro l
  induction l with
  | nil => exact fun _ _ => ⟨fun _ hx => (nomatch hx), fun _ h1 h2 => absurd h2 h1⟩
  | cons t l ih =>
    intro K hv
    obtain ⟨t1, c1⟩ := hv K t (Sub.refl K) List.mem_cons_self
    obtain ⟨n2, c2⟩ := ih (v K t) fun K' u hK' hu =>
      hv K' u ((hs K t).trans hK') (List.mem_cons_of_mem _ hu)
    have s2 := (fold_sub v hs l (v K t)).mono
    refine ⟨fun x hx => ?_, fun m hm1 hm2 x hx => ?_⟩
    · rcases List.mem_cons.1 hx with rfl | h
      · exact mono_none s2 (t1 x (List.mem_singleton.2 rfl))
      · exact n2 x h
    · by_cases hmid : v K t m = none
      · exact mono_none s2 (c1 m hm1 hmid x hx)
      · exact c2 m hmid hm2 x hx

structure Removes (rdeps : N → List N) (K K' : Cache N V) (l : List N) : Prop where
  only : Only rdeps K K' l
  covers : Covers rdeps K K' l

theorem Removes.sub {rdeps : N → List N} {K K' : Cache N V} {l : List N} (h : Removes rdeps K K' l) : Sub K K' :=
  h.only.sub

theorem Removes.ext {rdeps rdeps' : N → List N} {K K1 K2 : Cache N V} {l l' : List N} (h1 : Removes rdeps K K1 l)
    (h2 : Removes rdeps' K K2 l') (hrd : ∀ m x, x ∈ rdeps m ↔ x ∈ rdeps' m) (hl : ∀ n, n ∈ l ↔ n ∈ l') :
    K1 = K2 := by
  have e : ∀ x, Reach rdeps K l x ↔ Reach rdeps' K l' x := fun x =>
    ⟨Reach.imp (fun m x => (hrd m x).1) (fun _ h => h) fun t ht hk => .direct ((hl t).1 ht) hk,
     Reach.imp (fun m x => (hrd m x).2) (fun _ h => h) fun t ht hk => .direct ((hl t).2 ht) hk⟩
  funext x
  rcases h1.only x with a | ⟨a, ra⟩
  · rcases h2.only x with b | ⟨b, rb⟩
    · rw [a, b]
    · rw [h1.covers.reach ((e x).2 rb), b]
  · rw [a, h2.covers.reach ((e x).1 ra)]

variable [DecidableEq N]

def drop (K : Cache N V) (n : N) : Cache N V := fun x => if x = n then none else K x

mutual
def casc (rdeps : N → List N) : Nat → Cache N V → N → Cache N V
  | 0, K, _ => K
  | fuel+1, K, n => (rdeps n).foldl (fun K t => visit rdeps fuel K t) K
def visit (rdeps : N → List N) : Nat → Cache N V → N → Cache N V
  | fuel, K, t => if K t = none then K else casc rdeps fuel (drop K t) t
end

theorem drop_mono (K : Cache N V) (n : N) : Mono K (drop K n) :=
  Sub.mono fun x => by unfold drop; split <;> simp

theorem visit_only (rdeps : N → List N) : ∀ (fuel : Nat) (K : Cache N V) (t : N),
    Only rdeps K (visit rdeps fuel K t) [t] := by
  have vis : ∀ fuel, (∀ (K : Cache N V) n, Only rdeps K (casc rdeps fuel K n) (rdeps n)) →
      ∀ (K : Cache N V) t, Only rdeps K (visit rdeps fuel K t) [t] := by
    intro fuel hc K t x
    unfold visit
    split
    · exact .inl rfl
    · rename_i hk
      have ht : Reach rdeps K [t] t := .direct (List.mem_singleton.2 rfl) hk
      rcases hc (drop K t) t x with h | ⟨h0, hr⟩
      · by_cases hx : x = t
        · exact .inr ⟨by rw [h, hx]; simp [drop], hx ▸ ht⟩
        · exact .inl (by rw [h]; simp [drop, hx])
      · exact .inr ⟨h0, hr.imp (fun _ _ => id) (drop_mono K t) fun _ hm hk' => .step ht hm (drop_mono K t _ hk')⟩
  intro fuel
  induction fuel with
  | zero => exact vis 0 fun _ _ _ => .inl (by simp only [casc])
  | succ f ih => exact vis (f + 1) fun K n => by simp only [casc]; exact fold_only rdeps _ ih _ K

theorem visit_sub (rdeps : N → List N) (fuel : Nat) (K : Cache N V) (t : N) : Sub K (visit rdeps fuel K t) :=
  (visit_only rdeps fuel K t).sub

theorem casc_sub (rdeps : N → List N) : ∀ (fuel : Nat) (K : Cache N V) (n : N), Sub K (casc rdeps fuel K n)
  | 0, K, _ => by simp only [casc]; exact Sub.refl K
  | f + 1, K, n => by simp only [casc]; exact fold_sub _ (visit_sub rdeps f) _ K

theorem visit_covers (rdeps : N → List N) (fuel : Nat) (K : Cache N V) (t : N)
    (h : K t ≠ none → Covers rdeps (drop K t) (casc rdeps fuel (drop K t) t) (rdeps t)) :
    Covers rdeps K (visit rdeps fuel K t) [t] := by
  unfold visit
  split
  · rename_i hk
    exact ⟨fun x hx => List.mem_singleton.1 hx ▸ hk, fun _ h1 h2 => absurd h2 h1⟩
  · rename_i hk
    obtain ⟨b, c⟩ := h hk
    refine ⟨fun x hx => ?_, fun m hm1 hm2 x hx => ?_⟩
    · rw [List.mem_singleton.1 hx]; exact mono_none (casc_sub rdeps fuel _ t).mono (by simp [drop])
    · by_cases hmt : m = t
      · exact b x (hmt ▸ hx)
      · exact c m (by simpa [drop, hmt] using hm1) hm2 x hx

variable (rdeps : N → List N) (rank : N → Nat) (B : Nat) (P : N → Prop)

/-- Rank growth along `rdeps` and the rank bound are required only between nodes satisfying `P`, and every cached
node has to satisfy `P`: the message-level model takes `P n :=` "the attribute of `n` has metadata"
(`Micro.L.HasMeta`), since its `rdeps` may be cyclic on attributes the universe does not rank, which are never
cached. -/
theorem casc_covers (hr : ∀ m x, P m → P x → x ∈ rdeps m → rank m < rank x) (hB : ∀ x, P x → rank x < B) :
    ∀ fuel (K : Cache N V) (n : N), (∀ x, K x ≠ none → P x) → P n → B - rank n ≤ fuel →
      Covers rdeps K (casc rdeps fuel K n) (rdeps n) := by
  intro fuel
  induction fuel with
  | zero => exact fun _ n _ hn hf => absurd (Nat.le_zero.1 hf) (Nat.sub_ne_zero_of_lt (hB n hn))
  | succ fuel ih =>
    intro K n hP hn hf
    simp only [casc]
    exact fold_covers rdeps _ (visit_sub rdeps fuel) (rdeps n) K fun K2 x hK2 hx =>
      visit_covers rdeps fuel K2 x fun hk =>
        have hpx := hP x (hK2.mono x hk)
        ih _ x (fun y hy => hP y (hK2.mono y (drop_mono K2 x y hy))) hpx
          (Nat.le_of_lt_succ (Nat.lt_of_lt_of_le (Nat.sub_lt_sub_left (hB n hn) (hr n x hn hpx hx)) hf))

theorem fold_removes (hr : ∀ m x, P m → P x → x ∈ rdeps m → rank m < rank x) (hB : ∀ x, P x → rank x < B)
    (fuel : Nat) (hf : B ≤ fuel) (K : Cache N V) (hP : ∀ x, K x ≠ none → P x) (l : List N) :
    Removes rdeps K (l.foldl (fun K t => visit rdeps fuel K t) K) l :=
  ⟨fold_only rdeps _ (visit_only rdeps fuel) l K,
    fold_covers rdeps _ (visit_sub rdeps fuel) l K fun K2 t hK2 _ =>
      visit_covers rdeps fuel K2 t fun hk => casc_covers rdeps rank B P hr hB fuel _ t
        (fun y hy => hP y (hK2.mono y (drop_mono K2 t y hy))) (hP t (hK2.mono t hk)) (Nat.le_trans (Nat.sub_le _ _) hf)⟩

end Eos.Cascade
