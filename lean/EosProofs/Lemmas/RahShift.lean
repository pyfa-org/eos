import EosModel.Rah
import Mathlib.Tactic.Linarith
import Mathlib.Tactic.Ring
import Mathlib.Tactic.FieldSimp
/-! One cycle of the reactive armor hardener (property C12): the four-vectors, who donates, what a shift does
to the sum and to the bounds, single-type damage, averaging. -/
namespace Eos.Rah

theorem rmin_eq_min (a b : Rat) : rmin a b = min a b := (min_def a b).symm

@[simp] theorem Vec.get_ofFn (f : Dmg → Rat) (t : Dmg) : (Vec.ofFn f).get t = f t := by cases t <;> rfl
theorem Vec.sum_ofFn (f : Dmg → Rat) : (Vec.ofFn f).sum = f .em + f .therm + f .kin + f .expl := rfl
theorem Vec.sum_eq (v : Vec) : v.sum = v.get .em + v.get .therm + v.get .kin + v.get .expl := rfl
@[simp] theorem Vec.get_zero (t : Dmg) : Vec.zero.get t = 0 := by cases t <;> rfl

theorem Dmg.forall_iff {p : Dmg → Prop} : (∀ t, p t) ↔ p .em ∧ p .therm ∧ p .kin ∧ p .expl :=
  ⟨fun h => ⟨h _, h _, h _, h _⟩, fun ⟨h1, h2, h3, h4⟩ t => by cases t <;> assumption⟩

-- `Vec.ofFn v.get` is `v` by eta
theorem Vec.ext_get {v w : Vec} (h : ∀ t, v.get t = w.get t) : v = w :=
  congrArg Vec.ofFn (funext h)

theorem order_nodup : order.Nodup := by decide
theorem mem_order (t : Dmg) : t ∈ order := by cases t <;> decide

theorem Vec.sum_map_get {l : List Dmg} (h : l.Perm order) (v : Vec) : (l.map v.get).sum = v.sum := by
  rw [(h.map _).sum_eq, Vec.sum_eq]; simp only [order, List.map_cons, List.map_nil, List.sum_cons, List.sum_nil]; ring

theorem Vec.sum_sub_get_le {v w : Vec} {a : Dmg} (h : ∀ t, t ≠ a → v.get t ≤ w.get t) :
    v.sum - v.get a ≤ w.sum - w.get a := by
  rw [Dmg.forall_iff] at h
  simp only [Vec.sum_eq]
  cases a <;> simp only [ne_eq, reduceCtorEq, not_false_eq_true, not_true_eq_false, forall_const, false_imp_iff,
    true_and, and_true] at h <;> linarith [h.1, h.2.1, h.2.2]

theorem Vec.sum_sub_three_le {v : Vec} (hc : ∀ t, v.get t ≤ 1) (a : Dmg) : v.sum - 3 ≤ v.get a := by
  have := Vec.sum_sub_get_le (w := .ofFn fun _ => 1) (a := a) fun t _ => (hc t).trans_eq (Vec.get_ofFn (fun _ => 1) t).symm
  rw [Vec.sum_ofFn, Vec.get_ofFn] at this
  linarith

theorem Vec.ext_of_sum {v w : Vec} {a : Dmg} (hs : v.sum = w.sum) (h : ∀ t, t ≠ a → v.get t = w.get t) : v = w := by
  refine Vec.ext_get fun t => ?_
  by_cases ht : t = a
  · subst ht
    linarith [Vec.sum_sub_get_le fun t ht => (h t ht).le, Vec.sum_sub_get_le fun t ht => (h t ht).ge]
  · exact h t ht

theorem pos_of_sum_gt_three {v : Vec} (hs : 3 < v.sum) (hc : ∀ t, v.get t ≤ 1) (t : Dmg) : 0 < v.get t := by
  linarith [Vec.sum_sub_three_le hc t]

theorem sorted_perm (d : Vec) : (sorted d).Perm order := List.mergeSort_perm _ _

def recipients (d : Vec) : List Dmg := (sorted d).drop (donorsN d)

theorem donors_append_recipients (d : Vec) : donorList d ++ recipients d = sorted d := List.take_append_drop _ _

theorem donors_recipients_perm (d : Vec) : (donorList d ++ recipients d).Perm order :=
  donors_append_recipients d ▸ sorted_perm d

theorem mem_recipients {d : Vec} {t : Dmg} : t ∈ recipients d ↔ t ∉ donorList d := by
  have hp := donors_recipients_perm d
  exact ⟨fun h h' => (List.nodup_append.mp (hp.nodup_iff.mpr order_nodup)).2.2 t h' t h rfl,
    (List.mem_append.mp (hp.mem_iff.mpr (mem_order t))).resolve_left⟩

theorem donorsN_le (d : Vec) : donorsN d ≤ 4 := max_le (by decide) (List.length_filter_le _ order)

theorem two_le_donorsN (d : Vec) : 2 ≤ donorsN d := le_max_left _ _

theorem donorList_length (d : Vec) : (donorList d).length = donorsN d := by
  rw [donorList, List.length_take, (sorted_perm d).length_eq]; exact min_eq_left (donorsN_le d)

theorem recipients_length (d : Vec) : (recipients d).length = 4 - donorsN d := by
  rw [recipients, List.length_drop, (sorted_perm d).length_eq]; rfl

theorem donorsN_lt_of_ne {d : Vec} (h : ∃ t, d.get t ≠ 0) : donorsN d < 4 := by
  obtain ⟨t, ht⟩ := h
  exact max_lt (by decide) (List.length_filter_lt_length_iff_exists.mpr ⟨t, mem_order t, by simpa using ht⟩)

theorem nextResos_get (cur d : Vec) (s : Rat) (t : Dmg) :
    (nextResos cur d s).get t =
      if t ∈ donorList d then cur.get t + donation cur s t
      else cur.get t - donated cur d s / ((4 - donorsN d : Nat) : Rat) := Vec.get_ofFn _ t

theorem add_donation (cur : Vec) (s : Rat) (t : Dmg) : cur.get t + donation cur s t = min 1 (cur.get t + s) := by
  rw [donation, rmin_eq_min, ← min_add_add_left, add_sub_cancel]

theorem donation_nonneg {cur : Vec} {s : Rat} (hc : ∀ t, cur.get t ≤ 1) (hs : 0 ≤ s) (t : Dmg) :
    0 ≤ donation cur s t := by
  rw [donation, rmin_eq_min]; exact le_min (sub_nonneg.mpr (hc t)) hs

theorem list_sum_nonneg {l : List Rat} (h : ∀ x ∈ l, 0 ≤ x) : 0 ≤ l.sum := by
  induction l with
  | nil => simp
  | cons a l ih =>
    rw [List.sum_cons]; exact add_nonneg (h a (by simp)) (ih fun x hx => h x (by simp [hx]))

theorem donated_nonneg {cur : Vec} {s : Rat} (hc : ∀ t, cur.get t ≤ 1) (hs : 0 ≤ s) (d : Vec) :
    0 ≤ donated cur d s :=
  list_sum_nonneg fun _ hx => by obtain ⟨t, _, rfl⟩ := List.mem_map.mp hx; exact donation_nonneg hc hs t

theorem sum_map_sub_const {α : Type} (l : List α) (f : α → Rat) (c : Rat) :
    (l.map fun t => f t - c).sum = (l.map f).sum - l.length * c := by
  induction l with
  | nil => simp
  | cons a l ih => simp only [List.map_cons, List.sum_cons, ih, List.length_cons, Nat.cast_succ]; ring

theorem nextResos_sum {cur d : Vec} (s : Rat) (h : ∃ t, d.get t ≠ 0) : (nextResos cur d s).sum = cur.sum := by
  have hne : ((4 - donorsN d : Nat) : Rat) ≠ 0 := Nat.cast_ne_zero.mpr (Nat.sub_pos_of_lt (donorsN_lt_of_ne h)).ne'
  have hp := donors_recipients_perm d
  -- donors gain `donated` in all, each of the `4 - donorsN d` recipients loses an equal share of it
  rw [← Vec.sum_map_get hp, ← Vec.sum_map_get hp cur, List.map_append, List.map_append, List.sum_append, List.sum_append,
    List.map_congr_left fun t ht => (nextResos_get cur d s t).trans (if_pos ht),
    List.map_congr_left fun t ht => (nextResos_get cur d s t).trans (if_neg (mem_recipients.mp ht)),
    List.sum_map_add, sum_map_sub_const, recipients_length]
  rw [mul_div_cancel₀ _ hne]
  exact add_add_sub_cancel ..

theorem nextResos_le_one {cur : Vec} {s : Rat} (d : Vec) (hc : ∀ t, cur.get t ≤ 1) (hs : 0 ≤ s) (t : Dmg) :
    (nextResos cur d s).get t ≤ 1 := by
  rw [nextResos_get]
  split
  · rw [add_donation]; exact min_le_left _ _
  · exact (sub_le_self _ (div_nonneg (donated_nonneg hc hs d) (Nat.cast_nonneg _))).trans (hc t)

theorem dmgLe_trans (d : Vec) (a b c : Dmg) : decide (d.get a ≤ d.get b) = true →
    decide (d.get b ≤ d.get c) = true → decide (d.get a ≤ d.get c) = true := by
  simpa only [decide_eq_true_eq] using le_trans

theorem dmgLe_total (d : Vec) (a b : Dmg) : (decide (d.get a ≤ d.get b) || decide (d.get b ≤ d.get a)) = true := by
  simpa only [Bool.or_eq_true, decide_eq_true_eq] using le_total _ _

/- `sorted` is `List.mergeSort`, which like Python's `sorted` is sorted (`donor_le_recipient`) and stable
   (`tie_earlier_donates`); the two facts below are what these say about the cut after `donorsN d` entries. -/
theorem donor_le_recipient {d : Vec} {a b : Dmg} (ha : a ∈ donorList d) (hb : b ∉ donorList d) :
    d.get a ≤ d.get b := by
  have hp := List.pairwise_mergeSort (dmgLe_trans d) (dmgLe_total d) order
  rw [← sorted, ← donors_append_recipients, List.pairwise_append] at hp
  exact of_decide_eq_true (hp.2.2 a ha b (mem_recipients.mpr hb))

theorem pair_sublist_take {α : Type} {l : List α} (hn : l.Nodup) {a b : α} (n : Nat) (h : [a, b].Sublist l)
    (hb : b ∈ l.take n) : a ∈ l.take n := by
  rw [← List.take_append_drop n l] at h hn
  obtain ⟨l1, l2, h12, h1, h2⟩ := List.sublist_append_iff.mp h
  match l1, h12 with
  | x :: _, h12 => exact h1.subset (by simp [(List.cons.inj h12).1])
  | [], h12 => cases h12; exact absurd rfl ((List.nodup_append.mp hn).2.2 b hb b (h2.subset (by simp)))

theorem tie_earlier_donates {d : Vec} {a b : Dmg} (hord : [a, b].Sublist order) (hle : d.get a ≤ d.get b)
    (hb : b ∈ donorList d) : a ∈ donorList d :=
  pair_sublist_take ((sorted_perm d).nodup_iff.mpr order_nodup) _
    (List.pair_sublist_mergeSort (dmgLe_trans d) (dmgLe_total d) (by simpa using hle) hord) hb

theorem zero_damage_donates {d : Vec} (hd : ∀ t, 0 ≤ d.get t) {a : Dmg} (ha : d.get a = 0) : a ∈ donorList d := by
  by_contra hn
  -- otherwise every donor received no damage either, and with `a` these are more than `zeroCount d`
  have hall : ∀ t ∈ donorList d, decide (d.get t = 0) = true := fun t ht =>
    decide_eq_true (le_antisymm (ha ▸ donor_le_recipient ht hn) (hd t))
  have h1 : 0 < (recipients d).countP fun t => decide (d.get t = 0) :=
    List.countP_pos_iff.mpr ⟨a, mem_recipients.mpr hn, by simpa using ha⟩
  have h2 : zeroCount d = _ := (List.countP_eq_length_filter ..).symm.trans ((donors_recipients_perm d).countP_eq _).symm
  rw [List.countP_append, List.countP_eq_length.mpr hall, donorList_length] at h2
  have : zeroCount d ≤ donorsN d := le_max_right _ _
  omega

def SingleType (d : Vec) (a : Dmg) : Prop := 0 < d.get a ∧ ∀ t, t ≠ a → d.get t = 0

theorem single_donor_iff {d : Vec} {a : Dmg} (h : SingleType d a) (t : Dmg) : t ∈ donorList d ↔ t ≠ a := by
  constructor
  · rintro ht rfl
    -- there is a recipient; it received nothing, less than `t`
    obtain ⟨b, hb⟩ := List.exists_mem_of_length_pos (l := recipients d)
      (by rw [recipients_length]; exact Nat.sub_pos_of_lt (donorsN_lt_of_ne ⟨t, h.1.ne'⟩))
    have hbn := mem_recipients.mp hb
    exact absurd h.1 (not_lt.mpr (h.2 b (fun e => hbn (e ▸ ht)) ▸ donor_le_recipient ht hbn))
  · refine fun ht => zero_damage_donates (fun t => ?_) (h.2 t ht)
    by_cases ht : t = a
    · exact ht ▸ h.1.le
    · exact (h.2 t ht).ge

theorem nextResos_donor {d : Vec} {t : Dmg} (ht : t ∈ donorList d) (cur : Vec) (s : Rat) :
    (nextResos cur d s).get t = min 1 (cur.get t + s) := by
  rw [nextResos_get, if_pos ht, add_donation]

def iterShift (d : Vec) (s : Rat) (k : Nat) (cur : Vec) : Vec := (fun c => nextResos c d s)^[k] cur

theorem iterShift_succ (d : Vec) (s : Rat) (k : Nat) (cur : Vec) :
    iterShift d s (k + 1) cur = nextResos (iterShift d s k cur) d s := Function.iterate_succ_apply' ..

theorem iterShift_sum {d : Vec} (hd : ∃ t, d.get t ≠ 0) (s : Rat) (k : Nat) (cur : Vec) :
    (iterShift d s k cur).sum = cur.sum := by
  induction k with
  | zero => rfl
  | succ k ih => rw [iterShift_succ, nextResos_sum s hd, ih]

/-- Who donates depends on the damage only, so a donor stays one while the same damage is received. -/
theorem iterShift_donor {d : Vec} {t : Dmg} (ht : t ∈ donorList d) {cur : Vec} {s : Rat} (hs : 0 ≤ s)
    (hc : cur.get t ≤ 1) (k : Nat) : (iterShift d s k cur).get t = min 1 (cur.get t + k * s) := by
  induction k with
  | zero => rw [Nat.cast_zero, zero_mul, add_zero, min_eq_right hc]; rfl
  | succ k ih =>
    rw [iterShift_succ, nextResos_donor ht, ih, ← min_add_add_right, ← min_assoc,
      min_eq_left (le_add_of_nonneg_right hs), Nat.cast_succ, add_one_mul, add_assoc]

/-- Only the order of the received damage and which entries are zero matter. -/
theorem nextResos_congr {d1 d2 : Vec} (hle : ∀ a b, d2.get a ≤ d2.get b ↔ d1.get a ≤ d1.get b)
    (hz : ∀ t, d2.get t = 0 ↔ d1.get t = 0) (cur : Vec) (s : Rat) : nextResos cur d2 s = nextResos cur d1 s := by
  have hs : sorted d2 = sorted d1 :=
    congrArg (order.mergeSort ·) (funext fun a => funext fun b => decide_eq_decide.mpr (hle a b))
  have hc : zeroCount d2 = zeroCount d1 :=
    congrArg (fun p => (order.filter p).length) (funext fun t => decide_eq_decide.mpr (hz t))
  unfold nextResos donated donorList donorsN
  rw [hs, hc]

theorem vsum_ok {l : List Vec} {S : Rat} (h : ∀ v ∈ l, v.sum = S ∧ ∀ t, v.get t ≤ 1) :
    (vsum l).sum = l.length * S ∧ ∀ t, (vsum l).get t ≤ l.length := by
  induction l with
  | nil => exact ⟨by simp [vsum, Vec.zero, Vec.sum], fun t => by simp [vsum]⟩
  | cons v l ih =>
    obtain ⟨h1, h2⟩ := ih fun w hw => h w (List.mem_cons_of_mem _ hw)
    obtain ⟨h3, h4⟩ := h v List.mem_cons_self
    refine ⟨?_, fun t => ?_⟩
    · have : (vsum (v :: l)).sum = v.sum + (vsum l).sum := by simp only [vsum, Vec.sum]; ring
      rw [this, h3, h1, List.length_cons, Nat.cast_succ, add_one_mul, add_comm]
    · have : (vsum (v :: l)).get t = v.get t + (vsum l).get t := by cases t <;> rfl
      rw [this, List.length_cons, Nat.cast_succ, add_comm]; exact add_le_add (h2 t) (h4 t)

theorem mem_usedFrom {i : Nat} {r : RS} {v : Vec} (h : v ∈ usedFrom i r) : ∃ s ∈ r.snaps, s.2 = v := by
  obtain ⟨s, hs, hv⟩ := List.mem_filterMap.mp h
  exact ⟨s, List.mem_of_mem_drop hs, by split at hv <;> cases hv; rfl⟩

theorem avgFrom_ok {i : Nat} {r : RS} {S : Rat} (hr : r.resos.sum = S ∧ ∀ t, r.resos.get t ≤ 1)
    (hs : ∀ s ∈ r.snaps, s.2.sum = S ∧ ∀ t, s.2.get t ≤ 1) :
    (avgFrom i r).sum = S ∧ ∀ t, (avgFrom i r).get t ≤ 1 := by
  unfold avgFrom
  split
  · exact hr
  · rename_i u hne
    obtain ⟨h1, h2⟩ := vsum_ok (l := usedFrom i r) fun v hv => by
      obtain ⟨s, hs', rfl⟩ := mem_usedFrom hv; exact hs s hs'
    have hpos : (0 : Rat) < ((usedFrom i r).length : Nat) := Nat.cast_pos.mpr (List.length_pos_iff.mpr hne)
    refine ⟨?_, fun t => ?_⟩
    · simp only [Vec.sum, ← add_div] at h1 ⊢
      rw [h1]; exact mul_div_cancel_left₀ S hpos.ne'
    · have : ∀ v : Vec, ∀ n : Rat, (⟨v.em / n, v.therm / n, v.kin / n, v.expl / n⟩ : Vec).get t = v.get t / n := by
        intros; cases t <;> rfl
      rw [this, div_le_one₀ hpos]; exact h2 t

end Eos.Rah
