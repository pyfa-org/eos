import EosModel.GatherTableSpec
import EosProofs.Lemmas.CalcWorld
/-! `gather` walks over the items that run an effect only (`activeItems`); in a world with exactly one running
effect — a projected effect with one modifier, or a fleet boost — what it gathers for the modifier's
attribute is determined by the selection and the resistance factor.  The two theorems need the whole gathered list of
one effect of a known shape, so they unfold its one `effStep`.  `mkModG` / `effStepG` of
`EosModel/GatherTableSpec.lean` are `mkMod` / `effStep` under other names (`mkModG_eq`, `effStepG_eq`). -/
namespace Eos.AffectsSpec
open Eos.World Eos.Calc

theorem mkModG_eq (cfg : Config) (rd : Reader) (x a : Item) (e : Effect) (imm : Bool) (m : Modifier)
    (acc : List Mod) : mkModG cfg rd x a e imm m acc = mkMod cfg rd x a e imm m acc := rfl

theorem effStepG_eq (u : Universe) (cfg : Config) (immune : List Int) (rd : Reader) (x : Item) (tx : ItemType)
    (attr : Int) (a : Item) (ta : ItemType) (acc : List Mod) (e : Effect) :
    effStepG u cfg immune rd x tx attr a ta acc e = effStep u cfg immune rd x tx attr a ta acc e := rfl

theorem foldlM_nil_ok {α β : Type} (f : β → α → Except Val β) (init : β) :
    ([] : List α).foldlM f init = .ok init := rfl

theorem gather_of_sole {u : Universe} {cfg : Config} {b : Item} {ta : ItemType} {e : Effect}
    (h : activeItems u cfg = [(b, ta, [e])]) (immune : List Int) (rd : Reader) (x : Item) (tx : ItemType)
    (attr : Int) :
    gather u cfg immune rd x tx attr = effStep u cfg immune rd x tx attr b ta [] e := by
  have : gather u cfg immune rd x tx attr = (activeItems u cfg).foldlM (init := []) fun acc p =>
      p.2.2.foldlM (init := acc) (effStep u cfg immune rd x tx attr p.1 p.2.1) := by
    rw [gather_eq, activeItems, List.foldlM_filterMap]
    congr 1
    funext acc b
    cases itemType? u cfg b with
    | none => rfl
    | some ta => cases runningEffects u cfg b <;> rfl
  rw [this, h]
  simp only [List.foldlM_cons, List.foldlM_nil, bind_pure]

theorem gatherOutcome_projected {u : Universe} {cfg : Config} {a t : Item} {ta : ItemType} {e : Effect}
    {m : Modifier} {rd : Reader} {v : Rat} (hact : activeItems u cfg = [(a, ta, [e])]) (hm : e.mods = [m])
    (hd : m.domain = 4) (hb : e.isBuff = false) (hp : projectionTargets cfg a e = [t])
    (hv : rd a m.srcAttr = .ok v) (immune : List Int) (x : Item) (tx : ItemType) :
    gatherOutcome (gather u cfg immune rd x tx m.tgtAttr) m.op v =
      if affectsProjected cfg a m t x tx then
        (match resistOf cfg rd e x with | .ok r => some (some r) | _ => none)
      else some none := by
  have hl : affectsLocal cfg a m x tx = false := by rw [affectsLocal, hd]; rfl
  rw [gather_of_sole hact]
  unfold effStep
  simp only [hm, hb, hp, hl, hd, List.filter_cons, Bool.and_false, Bool.false_eq_true, if_false, List.filter_nil,
    List.foldlM_nil, List.foldlM_cons, beq_self_eq_true, Bool.true_and, pure_bind, bind_pure]
  cases hsel : affectsProjected cfg a m t x tx
  · rfl
  · simp only [if_true, List.foldlM_cons, List.foldlM_nil, bind_pure, mkMod, hv]
    cases resistOf cfg rd e x <;> simp [gatherOutcome]

/-- `gather` finds `m`'s modification once per boosted ship through which `m` selects `x` (hence the `countP`: 0
nothing, 1 the modification, more is not an outcome). -/
theorem gatherOutcome_boost {u : Universe} {cfg : Config} {a : Item} {ta : ItemType} {e : Effect} {m : Modifier}
    {bms : List Modifier} {rd : Reader} {v : Rat} (hact : activeItems u cfg = [(a, ta, [e])]) (hm : e.mods = [])
    (hb : e.isBuff = true) (hr : e.resistAttr = none) (hany : u.buffs.any (·.tgtAttr == m.tgtAttr) = true)
    (hbm : buffModifiers u rd a = .ok bms) (hone : bms.filter (·.tgtAttr == m.tgtAttr) = [m])
    (hv : rd a m.srcAttr = .ok v) (immune : List Int) (x : Item) (tx : ItemType) :
    gatherOutcome (gather u cfg immune rd x tx m.tgtAttr) m.op v =
      match (boostTargets cfg a.fit).countP fun tg => affectsProjected cfg a m tg x tx with
      | 0 => some none
      | 1 => some (some 1)
      | _ => none := by
  have hmk (imm : Bool) (acc : List Mod) (tg : Item) :
      (bms.filter fun m' => m'.tgtAttr == m.tgtAttr && affectsProjected cfg a m' tg x tx).foldlM
        (fun acc m' => mkMod cfg rd x a e imm m' acc) acc =
      if affectsProjected cfg a m tg x tx then
        .ok (acc ++ [{ op := m.op, value := v, resist := 1, agg := m.agg, aggKey := m.aggKey, immune := imm }])
      else .ok acc := by
    rw [List.filter_congr fun _ _ => Bool.and_comm _ _, ← List.filter_filter, hone]
    cases hs : affectsProjected cfg a m tg x tx <;>
      simp [hs, mkMod, hv, resistOf, hr, pure, Except.pure, bind, Except.bind]
  rw [gather_of_sole hact]
  unfold effStep
  -- with `e.mods = []` the local and the projected fold keep `acc` (`foldlM_keep`); the boost fold appends one copy
  -- per selecting ship (`hmk`, `foldlM_append_if`)
  simp only [hb, hany, hbm, hm, List.filter_nil, List.foldlM_nil, if_true, List.append_nil, foldlM_keep, hmk,
    foldlM_append_if, List.nil_append, bind, Except.bind, pure, Except.pure]
  generalize (boostTargets cfg a.fit).countP _ = n
  match n with
  | 0 => rfl
  | 1 => simp [gatherOutcome]
  | n + 2 => rfl

/-- Where `ty` is the only type with effects, only its items can run one. -/
theorem activeItems_busy {u : Universe} {cfg : Config} {ty : ItemType}
    (hty : u.types.filter (!·.effects.isEmpty) = [ty]) :
    activeItems u { cfg with items := cfg.items.filter (·.typeId == ty.id) } = activeItems u cfg := by
  show (cfg.items.filter _).filterMap _ = cfg.items.filterMap _
  rw [List.filterMap_filter]
  refine filterMap_congr_mem fun x _ => ?_
  cases hp : x.typeId == ty.id
  · cases hx : itemType? u cfg x with
    | none => rfl
    | some tx =>
      have ht : u.types.find? (·.id == x.typeId) = some tx := (Option.ite_none_right_eq_some.1 hx).2
      have hid : tx.id = x.typeId := by simpa using List.find?_some ht
      have : tx ∉ u.types.filter (!·.effects.isEmpty) := by
        rw [hty, List.mem_singleton]; rintro rfl; simp [hid] at hp
      have he : tx.effects = [] := by simpa [List.mem_of_find?_eq_some ht] using this
      simp [runningEffects, hx, he]
  · rfl

theorem soleEffect_spec {u : Universe} {cfg : Config} {affector : Nat} {a : Item}
    (h : soleEffect u cfg affector = true) (hnd : (cfg.items.map (·.id)).Nodup)
    (ha : item? cfg affector = some a) : ∃ ta e, activeItems u cfg = [(a, ta, [e])] ∧ e ∈ u.effects := by
  unfold soleEffect at h
  split at h
  · rw [activeItems_busy ‹_›] at h
    split at h
    · rename_i b ta e hact
      have hmem : (b, ta, [e]) ∈ activeItems u cfg := hact ▸ List.mem_cons_self
      obtain ⟨x, hx, hxb⟩ := List.mem_filterMap.1 hmem
      split at hxb
      · cases hxb
      · split at hxb
        · cases hxb
        · simp only [Option.some.injEq, Prod.mk.injEq] at hxb
          obtain ⟨rfl, -, hre⟩ := hxb
          have hid : (a.id == affector) = true := List.find?_some (p := fun x : Item => x.id == affector) (a := a) ha
          have hxa : x = a := eq_of_nodup_map _ hnd hx (List.mem_of_find?_eq_some ha)
            ((beq_iff_eq.1 h).trans (beq_iff_eq.1 hid).symm)
          exact ⟨ta, e, hxa ▸ hact, runningEffects_mem (a := x) (hre ▸ List.mem_cons_self)⟩
    · cases h
  · cases h

theorem activeItems_universe (w : GWorld) (ms : List Modifier) :
    activeItems (w.universe ms) w.cfg = (activeItems (w.universe []) w.cfg).map fun p =>
      (p.1, p.2.1, p.2.2.map ({ · with mods := ms })) := by
  have hr (it : Item) := runningEffects_map (cfg := w.cfg) (u := w.universe []) (u' := w.universe ms)
    ({ · with mods := ms }) rfl (fun i => by
      simp only [effect?, GWorld.universe, List.find?_cons, List.find?_nil]; split <;> rfl)
    (fun _ => rfl) (fun _ _ _ _ => rfl) it
  unfold activeItems
  rw [List.map_filterMap]
  refine congrArg (List.filterMap · _) (funext fun it => ?_)
  show (match itemType? (w.universe []) w.cfg it with | none => none | some ta => _) = _
  cases itemType? (w.universe []) w.cfg it with
  | none => rfl
  | some ta => simp only [hr, List.isEmpty_map]; split <;> rfl
end Eos.AffectsSpec
