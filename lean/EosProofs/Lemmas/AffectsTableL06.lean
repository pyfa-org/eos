import EosGen.AffectsTableL06
namespace Eos.C02
open Eos.AffectsSpec EosGen.AffectsTable

theorem affects_blockL06_ok : localBlockOk blockL06 blockL06Cases blockL06Modified blockL06Valid = true := by decide +kernel

end Eos.C02
