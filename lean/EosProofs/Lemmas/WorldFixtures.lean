import EosProofs.Lemmas.MicroAssembly
import EosProofs.Lemmas.MicroExecStep
/-! Fixtures, no lemmas: the history of the two-item world of `Lemmas/MicroSettle.lean` that `Props/C01World`, `C09World`,
`C14World` run; a fleet of two fits whose settled state carries a running boost, and the same fleet with a boost of
unknown buff id (`Props/C01World`, `C08World`, `C09World`, `C13World`).  The fleet shows `settled_spec_eq_table_buff`
(`Lemmas/MicroAssembly.lean`) non-vacuous here.  That a history leaves the derived registers is `DynFin.ext`: both
sides name configured items and their effects only, and agree there by evaluation. -/
namespace Eos.Micro
open Eos.World Eos.DepCache Eos.Machine Eos.Micro.L

/-! ## A history of the two-item world of `Lemmas/MicroSettle.lean`

Both items loaded, nothing running, nothing cached; then `EffectsStarted` for the module's two effects,
`EffectApplied` of each onto the ship, and a public read of the ship's attribute 37 (and what it reads).
The history satisfies `WRunOKE` and ends in the settled state. -/

def settleD0 : Dyn := { loaded := fun i => i == 1 || i == 2, on := fun _ _ => false, tgts := fun _ _ => [] }
def settleS0 : MState := ⟨settleCfg, settleD0, fun _ => none⟩
abbrev settleW : Config × Dyn → Graph Node Rat := worldGraph settleU specImmune specLimited (fun _ => 1) (by decide)
def settleHist : List WStep :=
  [.micro (.start 2 [1000, 1001]), .micro (.apply 2 1000 [1]), .micro (.apply 2 1001 [1]),
   .read fun n => n == (1, 37) || n == (2, 20)]
def settleMod : Item := ⟨2, .moduleMid, 2, 0, 3, none, some 1, none, [(1001, 3)]⟩

theorem settle_item2 : item? settleCfg 2 = some settleMod := rfl

theorem settle_dynFin0 : DynFin settleU settleS0.cfg settleS0.dyn :=
  dynFin_idle fun i hi => by
    have : i = 1 ∨ i = 2 := by simpa using hi
    rcases this with rfl | rfl <;> decide

theorem settle_hset : (wrun settleU settleW settleS0 settleHist).dyn = derivedDyn settleU settleCfg :=
  (dynFin_wrun settleW settleHist settleS0 settle_dynFin0 (by decide)).ext (dynFin_derivedDyn (by decide))
    (by decide +kernel)

theorem settle_runOK : WRunOKE settleU specImmune specLimited (fun _ => 1) settleW settleS0 settleHist :=
  wrunOKE_of_errorFree _ _ _ (by unfold ErrorFree; decide +kernel)
    ⟨fun _ _ => rfl, solsys_of_all (by decide), solsys_of_all (by decide),
      legal_read_of_closed _ _ [(1, 37), (2, 20)] (by simp) (by decide +kernel), trivial⟩

theorem settle_rank : rankWF settleU = true := by decide +kernel

theorem settle_wf : UniqueAttrs settleU ∧ ResistWF settleU ∧ UniqueIds settleCfg ∧ ChargeWF settleCfg ∧
    TgtKinds settleCfg settleD0 :=
  ⟨by unfold UniqueAttrs; decide, resistWF_of_all (by decide), by decide,
    chargeWF_of_all (by decide), tgtKinds_of_nil fun _ _ => rfl⟩

theorem settle_noBuff : ∀ e ∈ settleU.effects, e.isBuff = false := by decide

theorem settle_evalAll : (∀ entry ∈ evalAll settleU settleCfg specImmune specLimited (fun _ => 1), entry.2 ≠ .divZero) ∧
    read (evalAll settleU settleCfg specImmune specLimited (fun _ => 1)) settleShip 37 = .ok 225 :=
  ⟨by decide +kernel, by decide +kernel⟩

theorem settle_cache : (wrun settleU settleW settleS0 settleHist).cache (1, 37) = some 225 := by decide +kernel

variable {u : Universe} {immune limited : List Int} {pen : Nat → Rat} {cfg : Config}

example (hb : ∀ e ∈ u.effects, e.isBuff = false) (hwf : rankWF u = true) (hun : UniqueAttrs u) (hc : UniqueIds cfg)
    (hnz : ∀ entry ∈ evalAll u cfg immune limited pen, entry.2 ≠ .divZero)
    {x : Item} (hx : x ∈ cfg.items) {am : AttrMeta} (ham : am ∈ u.attrs) :
    spec (worldGraph u immune limited pen hwf (cfg, derivedDyn u cfg)) (x.id, am.id) =
      valToOption (read (evalAll u cfg immune limited pen) x am.id) :=
  settled_spec_eq_table hb hwf hun hc hnz hx ham

/-! ## A fleet of two fits

Fit 0 (ship 1, a high-slot module 2 with a running fleet-boost effect 2000) and fit 1 (ship 3) in fleet 7.  The
module's buff id attribute 2468 = 10 selects the template "multiply attribute 37 of the boosted ship by the buff
value" (attribute 2469 = 3/2).  The dynamic state records the two ships as targets of the boost and the one
warfare-buff modifier as payload; both ships read 150 on both levels. -/
def fleetU : Universe :=
  { attrs := [⟨2468, none, none, true, true⟩, ⟨2469, none, none, true, true⟩, ⟨37, none, none, true, true⟩],
    effects := [⟨2000, 1, none, none, true, []⟩],
    types := [⟨1, none, some 6, none, [(37, 100)], [], []⟩,
              ⟨2, none, some 7, some 2000, [(2468, 10), (2469, 3/2)], [2000], []⟩],
    buffs := [⟨10, 1, none, 37, 6, 1⟩] }
def fleetShip1 : Item := ⟨1, .ship, 1, 0, 1, none, none, none, []⟩
def fleetMod : Item := ⟨2, .moduleHigh, 2, 0, 3, none, none, none, []⟩
def fleetShip3 : Item := ⟨3, .ship, 1, 1, 1, none, none, none, []⟩
def fleetCfg : Config :=
  { hasSource := true, fits := [⟨0, some 1, none, some 7⟩, ⟨1, some 3, none, some 7⟩],
    items := [fleetShip1, fleetMod, fleetShip3] }
def fleetD : Dyn :=
  { loaded := (derivedDyn fleetU fleetCfg).loaded, on := (derivedDyn fleetU fleetCfg).on,
    tgts := fun i e => if i = 2 ∧ e = 2000 then [1, 3] else [],
    bspecs := fun i e => if i = 2 ∧ e = 2000 then [⟨1, 4, none, 37, 6, 1, some 10, 2469⟩] else [] }
abbrev fleetPen : Nat → Rat := fun _ => 1

theorem fleet_hnp : ∀ e ∈ fleetU.effects, e.isBuff = true → e.category ≠ 2 := by decide
theorem fleet_ship3 : fleetShip3 ∈ fleetCfg.items := List.mem_cons_of_mem _ (List.mem_cons_of_mem _ List.mem_cons_self)
theorem fleet_attr37 : (⟨37, none, none, true, true⟩ : AttrMeta) ∈ fleetU.attrs :=
  List.mem_cons_of_mem _ (List.mem_cons_of_mem _ List.mem_cons_self)

theorem fleet_derived_on :
    (derivedDyn fleetU fleetCfg).on = fun j e => if j = 2 ∧ e ∈ [2000] then true else false := by
  have h := dynFin_derivedDyn (u := fleetU) (cfg := fleetCfg) (by decide)
  have h' : DynFin fleetU fleetCfg
      { derivedDyn fleetU fleetCfg with on := fun j e => if j = 2 ∧ e ∈ [2000] then true else false } := by
    refine ⟨h.loaded, fun j e hj => ?_, h.tgts, h.bspecs⟩
    change (if j = 2 ∧ e ∈ [2000] then true else false) = true at hj
    split at hj
    · rename_i hc
      obtain ⟨rfl, he⟩ := hc
      obtain rfl := List.mem_singleton.1 he
      exact namedb_iff.1 (by decide)
    · cases hj
  exact congrArg Dyn.on (h.ext h' (by decide +kernel))

theorem fleet_run {u : Universe} (r1 : runningEffects u fleetCfg fleetShip1 = [])
    (r2 : runningEffects u fleetCfg fleetMod = [⟨2000, 1, none, none, true, []⟩])
    (r3 : runningEffects u fleetCfg fleetShip3 = []) :
    ∀ a ∈ fleetCfg.items, ∀ e ∈ runningEffects u fleetCfg a, a = fleetMod ∧ e = ⟨2000, 1, none, none, true, []⟩ := by
  intro a ha e he
  simp only [fleetCfg, List.mem_cons, List.not_mem_nil, or_false] at ha
  rcases ha with rfl | rfl | rfl
  · rw [r1] at he; cases he
  · rw [r2] at he; exact ⟨rfl, List.mem_singleton.1 he⟩
  · rw [r3] at he; cases he

theorem fleet_settled_of {d : Dyn} (hl : d.loaded = (derivedDyn fleetU fleetCfg).loaded)
    (ho : d.on = fun j e => if j = 2 ∧ e ∈ [2000] then true else false)
    (hb : d.bspecs 2 2000 = [⟨1, 4, none, 37, 6, 1, some 10, 2469⟩]) (ht : (d.tgts 2 2000).Perm [1, 3]) :
    BuffSettled fleetU fleetCfg specImmune specLimited fleetPen d := by
  have run := fleet_run (u := fleetU) (by decide +kernel) rfl (by decide +kernel)
  refine ⟨hl, ho.trans fleet_derived_on.symm, ?_, ?_⟩
  · intro a ha e he hbf
    obtain ⟨rfl, rfl⟩ := run a ha e he
    cases hbf
  · intro a ha e he _
    obtain ⟨rfl, rfl⟩ := run a ha e he
    exact ⟨⟨_, by decide +kernel, List.Perm.of_eq hb⟩, Or.inr ht⟩

theorem fleet_settled : BuffSettled fleetU fleetCfg specImmune specLimited fleetPen fleetD :=
  fleet_settled_of rfl fleet_derived_on rfl (List.Perm.refl _)

theorem fleet_evalAll : (∀ entry ∈ evalAll fleetU fleetCfg specImmune specLimited fleetPen, entry.2 ≠ .divZero) ∧
    read (evalAll fleetU fleetCfg specImmune specLimited fleetPen) fleetShip1 37 = .ok 150 ∧
    read (evalAll fleetU fleetCfg specImmune specLimited fleetPen) fleetShip3 37 = .ok 150 :=
  ⟨by decide +kernel, by decide +kernel, by decide +kernel⟩

/-- The hypotheses of `settled_spec_eq_table_buff` hold for this world (a universe *with* a buff effect), and
the boosted ship of the other fit reads 100 · 3/2. -/
example : spec (worldGraph fleetU specImmune specLimited fleetPen (by decide) (fleetCfg, fleetD)) (3, 37) =
    some 150 :=
  (settled_spec_eq_table_buff (by decide +kernel) (by unfold UniqueAttrs; decide) (by decide) fleet_hnp
    fleet_evalAll.1 fleet_settled fleet_ship3 fleet_attr37).trans (congrArg valToOption fleet_evalAll.2.2)
example : ¬ ∀ e ∈ fleetU.effects, e.isBuff = false := by decide
/-- Without the payload the message-level state does not meet the table. -/
example : valueOfD fleetU fleetCfg (derivedDyn fleetU fleetCfg) specImmune specLimited fleetPen
    (read (evalAll fleetU fleetCfg specImmune specLimited fleetPen)) fleetShip3 ⟨37, none, none, true, true⟩ =
      .ok 100 := by decide +kernel
example : valueOfD fleetU fleetCfg fleetD specImmune specLimited fleetPen
    (read (evalAll fleetU fleetCfg specImmune specLimited fleetPen)) fleetShip3 ⟨37, none, none, true, true⟩ =
      .ok 150 := by decide +kernel

/-! ### A running boost with an unknown buff id

The same world, but the module's buff id attribute is 11, for which the universe has no template: the service
registers no warfare-buff modifier and publishes no `EffectApplied`, so the settled state records no targets for
the running boost (while `boostTargets` lists both ships).  `BuffSettled` holds through the first disjunct of
the target clause, and the ships read their base value on both levels. -/
def fleetU2 : Universe :=
  { fleetU with types := [⟨1, none, some 6, none, [(37, 100)], [], []⟩,
                          ⟨2, none, some 7, some 2000, [(2468, 11), (2469, 3/2)], [2000], []⟩] }
def fleetD2 : Dyn :=
  { loaded := (derivedDyn fleetU2 fleetCfg).loaded, on := (derivedDyn fleetU2 fleetCfg).on,
    tgts := fun _ _ => [], bspecs := fun _ _ => [] }

theorem fleet2_settled : BuffSettled fleetU2 fleetCfg specImmune specLimited fleetPen fleetD2 := by
  have run := fleet_run (u := fleetU2) (by decide +kernel) rfl (by decide +kernel)
  refine ⟨rfl, rfl, ?_, ?_⟩
  · intro a ha e he hbf
    obtain ⟨rfl, rfl⟩ := run a ha e he
    cases hbf
  · intro a ha e he _
    obtain ⟨rfl, rfl⟩ := run a ha e he
    exact ⟨⟨[], by decide +kernel, List.Perm.refl _⟩, Or.inl rfl⟩

/-- The running boost has boost targets in the specification but none recorded. -/
example : (boostTargets fleetCfg fleetMod.fit).map (·.id) = [1, 3] ∧ fleetD2.tgts 2 2000 = [] := ⟨by rfl, rfl⟩
example : spec (worldGraph fleetU2 specImmune specLimited fleetPen (by decide) (fleetCfg, fleetD2)) (3, 37) =
    some 100 :=
  (settled_spec_eq_table_buff (by decide +kernel) (by unfold UniqueAttrs; decide) (by decide) (by decide)
    (by decide +kernel) fleet2_settled fleet_ship3 fleet_attr37).trans (by decide +kernel)

end Eos.Micro
