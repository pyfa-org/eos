import EosProofs.Lemmas.RahDur
/-! The stored-results layer of the reactive armor hardener simulator (property C12): whatever is stored equals
the results of a fresh run on the current inputs, after every history of operations inside the guard (`ValidOp`). -/
namespace Eos.Rah

variable {σ : Type}

def World.current (shipFn : σ → List Vec → Option Vec) (maxT : Nat) (w : World σ) : List Vec :=
  (getResults (w.ship.map shipFn) w.profile maxT w.inputs).1

structure WInv (shipFn : σ → List Vec → Option Vec) (maxT : Nat) (w : World σ) : Prop where
  coh : ∀ r, w.res = some r → r = w.current shipFn maxT
  empty : w.rahs = [] → w.res = none
  full : ∀ x ∈ w.rahs, RahFull x.rah
  prof : ProfOK w.defProfile ∧ ∀ p, w.rahProfile = some p → ProfOK p
  /-- while results computed with a ship are stored, the calculator holds every value the simulator depends on -/
  cached : w.res.isSome → w.ship.isSome →
    (∀ x ∈ w.rahs, x.shiftC = true) ∧ (1 < w.rahs.length → ∀ x ∈ w.rahs, x.durC = true) ∧ ∀ t, t ∈ w.shipC

theorem mem_allDmg (t : Dmg) : t ∈ allDmg := by cases t <;> simp [allDmg]

theorem profOK_profile {w : World σ} (h : ProfOK w.defProfile ∧ ∀ p, w.rahProfile = some p → ProfOK p) :
    ProfOK w.profile := by
  unfold World.profile
  cases hp : w.rahProfile with
  | none => exact h.1
  | some p => exact h.2 p hp

theorem getResults_ok {shipFn : σ → List Vec → Option Vec} (hs : ShipFnOK shipFn) (s : σ) {p : Vec} (hp : ProfOK p)
    (maxT : Nat) {rahs : List Rah} (hne : rahs ≠ []) (hr : ∀ r ∈ rahs, RahFull r) :
    (getResults (some (shipFn s)) p maxT rahs).2.1 = .ok := by
  rw [getResults_outcome, if_pos (simulate_some (hs.envFull s hp) maxT hne hr)]

theorem winv_of_res_none {shipFn : σ → List Vec → Option Vec} {maxT : Nat} {w : World σ} (hres : w.res = none)
    (hf : ∀ x ∈ w.rahs, RahFull x.rah) (hp : ProfOK w.defProfile ∧ ∀ p, w.rahProfile = some p → ProfOK p) :
    WInv shipFn maxT w :=
  ⟨fun r hr => (nomatch hres.symm.trans hr), fun _ => hres, hf, hp, fun h => by rw [hres] at h; cases h⟩

theorem winv_init (shipFn : σ → List Vec → Option Vec) (maxT : Nat) : WInv shipFn maxT (World.init : World σ) :=
  have h : (0 : Rat) < 25 := by norm_num
  winv_of_res_none rfl (fun _ hx => nomatch hx) ⟨⟨fun t => by cases t <;> exact h.le, .em, h⟩, fun _ h => nomatch h⟩

theorem winv_clear {shipFn : σ → List Vec → Option Vec} {maxT : Nat} {w : World σ}
    (he : w.rahs = [] → w.res = none) (hf : ∀ x ∈ w.rahs, RahFull x.rah)
    (hp : ProfOK w.defProfile ∧ ∀ p, w.rahProfile = some p → ProfOK p) : WInv shipFn maxT w.clear := by
  unfold World.clear
  split
  · exact winv_of_res_none (he (List.isEmpty_iff.mp ‹_›)) hf hp
  · exact winv_of_res_none rfl hf hp

theorem markRead_rah (ok : Bool) (l : List RahW) : (markRead ok l).map (·.rah) = l.map (·.rah) := by
  unfold markRead; split
  · rw [List.map_map]; rfl
  · rfl

theorem mem_markRead {ok : Bool} {l : List RahW} {x : RahW} (h : x ∈ markRead ok l) :
    ∃ y ∈ l, x.rah = y.rah ∧ (ok = true → x.shiftC = true ∧ x.durC = true) := by
  unfold markRead at h; split at h
  · obtain ⟨y, hy, rfl⟩ := List.mem_map.mp h; exact ⟨y, hy, rfl, fun _ => ⟨rfl, rfl⟩⟩
  · exact ⟨x, h, rfl, fun e => absurd e ‹_›⟩

attribute [local irreducible] markRead

theorem fill_of_stored {shipFn : σ → List Vec → Option Vec} {maxT : Nat} {w : World σ}
    (h : (w.res.isSome || w.rahs.isEmpty) = true) : w.fill shipFn maxT = w := if_pos h

theorem winv_fill {shipFn : σ → List Vec → Option Vec} (hs : ShipFnOK shipFn) {maxT : Nat} {w : World σ}
    (h : WInv shipFn maxT w) : WInv shipFn maxT (w.fill shipFn maxT) := by
  by_cases hc : (w.res.isSome || w.rahs.isEmpty) = true
  · rw [fill_of_stored hc]; exact h
  have hne : w.rahs ≠ [] := fun e => hc (by simp [e])
  rw [World.fill, if_neg hc]
  refine ⟨fun r hr => ?_, fun he => ?_, fun x hx => ?_, h.prof, fun _ hship => ?_⟩
  · cases hr; exact congrArg (fun l => (getResults _ _ maxT l).1) (markRead_rah ..).symm
  · exact absurd (List.map_eq_nil_iff.mp ((markRead_rah ..).symm.trans (congrArg (List.map (·.rah)) he))) hne
  · obtain ⟨y, hy, hxy, _⟩ := mem_markRead hx
    exact hxy ▸ h.full y hy
  · obtain ⟨s, hs'⟩ : ∃ s, w.ship = some s := Option.isSome_iff_exists.mp hship
    have hok : (getResults (w.ship.map shipFn) w.profile maxT w.inputs).2.1 = .ok := by
      rw [hs', Option.map_some]
      exact getResults_ok hs s (profOK_profile h.prof) maxT (fun e => hne (List.map_eq_nil_iff.mp e)) fun r hr => by
        obtain ⟨x, hx, rfl⟩ := List.mem_map.mp hr; exact h.full x hx
    have hflags : ∀ x ∈ markRead ((getResults (w.ship.map shipFn) w.profile maxT w.inputs).2.1 == .ok) w.rahs,
        x.shiftC = true ∧ x.durC = true := fun x hx => by
      obtain ⟨_, _, _, hf⟩ := mem_markRead hx; exact hf (by rw [hok]; rfl)
    exact ⟨fun x hx => (hflags x hx).1, fun _ x hx => (hflags x hx).2, fun t => by simp only [hs']; exact mem_allDmg t⟩

theorem exposed_fill {shipFn : σ → List Vec → Option Vec} {maxT : Nat} {w : World σ} (h : WInv shipFn maxT w)
    (hne : w.rahs ≠ []) : (w.fill shipFn maxT).exposed = w.current shipFn maxT := by
  by_cases hc : (w.res.isSome || w.rahs.isEmpty) = true
  · obtain ⟨r, hr⟩ := Option.isSome_iff_exists.mp ((Bool.or_eq_true ..).mp hc |>.resolve_right (by simpa using hne))
    rw [fill_of_stored hc, World.exposed, hr]; exact h.coh r hr
  · rw [World.fill, if_neg hc]; rfl

theorem forall_mem_modify {α : Type} {p : α → Prop} {f : α → α} (hf : ∀ x, p x → p (f x))
    {l : List α} {i : Nat} (h : ∀ x ∈ l, p x) (x : α) (hx : x ∈ l.modify i f) : p x := by
  obtain ⟨j, hj, rfl⟩ := List.getElem_of_mem hx
  rw [List.getElem_modify]
  split
  · exact hf _ (h _ (List.getElem_mem _))
  · exact h _ (List.getElem_mem _)

theorem map_modify_eq {α β : Type} (g : α → β) (f : α → α) (hf : ∀ x, g (f x) = g x) :
    ∀ (l : List α) (i : Nat), (l.modify i f).map g = l.map g
  | [], _ => by simp
  | a :: l, 0 => by simp [hf]
  | a :: l, i + 1 => by simp [map_modify_eq g f hf l i]

/-- All flags true means: an uncached index is out of range, and the update is then void. -/
theorem modify_void {l : List RahW} {i : Nat} {g : RahW → Bool} (f : RahW → RahW) (hall : ∀ x ∈ l, g x = true)
    (hun : (l[i]?.map g).getD false = false) : l.modify i f = l := by
  cases hi : l[i]? with
  | none => exact List.modify_eq_self (by simpa using List.getElem?_eq_none_iff.mp hi)
  | some x => simp [hi, hall x (List.mem_of_getElem? hi)] at hun

theorem current_no_ship {shipFn : σ → List Vec → Option Vec} {maxT : Nat} {w w' : World σ} (hs : w.ship = none)
    (hs' : w'.ship = none) (hb : w'.rahs.map (·.rah.base) = w.rahs.map (·.rah.base)) :
    w'.current shipFn maxT = w.current shipFn maxT := by
  unfold World.current World.inputs getResults
  simp only [hs, hs', Option.map_none, List.map_map]
  exact hb

/-- A hardener's input changes while the calculator holds no value for it (`hvoid`: results of a run with a ship
    are stored only while it holds all of them, so the index is then out of range). Whatever is stored was then
    computed without a ship, from the base resonances alone. -/
theorem winv_modify {shipFn : σ → List Vec → Option Vec} {maxT : Nat} {w : World σ} (h : WInv shipFn maxT w) (i : Nat)
    {f : RahW → RahW} (hfull : ∀ x, RahFull x.rah → RahFull (f x).rah) (hbase : ∀ x, (f x).rah.base = x.rah.base)
    (hvoid : w.res.isSome → w.ship.isSome → w.rahs.modify i f = w.rahs) :
    WInv shipFn maxT { w with rahs := w.rahs.modify i f } := by
  by_cases hcase : w.res.isSome ∧ w.ship.isSome
  · rw [hvoid hcase.1 hcase.2]; exact h
  · refine ⟨fun r hr => ?_, fun e => h.empty (List.modify_eq_nil_iff.mp e), forall_mem_modify hfull h.full, h.prof,
      fun h1 h2 => absurd ⟨h1, h2⟩ hcase⟩
    have hr' : w.res = some r := hr
    have hsh : w.ship = none := by
      cases hw : w.ship with
      | none => rfl
      | some s => exact absurd ⟨by simp [hr'], by simp [hw]⟩ hcase
    exact (h.coh r hr').trans (current_no_ship (w' := { w with rahs := w.rahs.modify i f }) hsh hsh
      (map_modify_eq (·.rah.base) f hbase w.rahs i)).symm

theorem winv_clear_modify {shipFn : σ → List Vec → Option Vec} {maxT : Nat} {w : World σ} (h : WInv shipFn maxT w)
    (i : Nat) {f : RahW → RahW} (hfull : ∀ x, RahFull x.rah → RahFull (f x).rah) :
    WInv shipFn maxT ({ w with rahs := w.rahs.modify i f } : World σ).clear :=
  winv_clear (fun e => h.empty (List.modify_eq_nil_iff.mp e)) (forall_mem_modify hfull h.full) h.prof

theorem current_setDur_single {shipFn : σ → List Vec → Option Vec} {maxT : Nat} {w : World σ}
    (hlen : ¬1 < w.rahs.length) (hf : ∀ x ∈ w.rahs, RahFull x.rah) {d' : Rat} (hd' : 0 < d') (i : Nat) :
    w.current shipFn maxT = ({ w with rahs := w.rahs.modify i fun x =>
      { x with rah := { x.rah with dur := some d' }, durC := false } } : World σ).current shipFn maxT := by
  unfold World.current World.profile World.inputs
  match hw : w.rahs, i, hlen with
  | [], _, _ => rw [List.modify_nil]
  | [x], 0, _ =>
    obtain ⟨d, hd, hdpos⟩ := (hf x (hw ▸ List.mem_singleton_self x)).dur
    exact (getResults_single_dur hd hdpos hd' maxT).symm
  | [x], _ + 1, _ => rw [List.modify_succ_cons, List.modify_nil]
  | _ :: _ :: _, _, hl => exact absurd (Nat.one_lt_succ_succ _) hl

theorem winv_step {shipFn : σ → List Vec → Option Vec} (hs : ShipFnOK shipFn) {maxT : Nat} {w : World σ}
    (h : WInv shipFn maxT w) (op : Op σ) (hp : ValidOp op) : WInv shipFn maxT (w.step shipFn maxT op) := by
  cases op with
  | readRah => exact winv_fill hs h
  | readShip t =>
    simp only [World.step]
    split
    · exact h
    · have hf := winv_fill (maxT := maxT) hs h
      split
      · exact hf
      · exact { hf with cached := fun h1 h2 => (hf.cached h1 h2).imp_right (.imp_right fun c t' => List.mem_cons_of_mem _ (c t')) }
  | setRahProfile p =>
    simp only [World.step]
    have hprof : ProfOK w.defProfile ∧ ∀ q, p = some q → ProfOK q := ⟨h.prof.1, fun q hq => by subst hq; exact hp⟩
    split
    · rename_i hpp
      refine { h with prof := hprof, coh := fun r hr => (h.coh r hr).trans ?_ }
      simp only [World.current, World.profile, World.inputs, hpp]; rfl
    · exact winv_clear (w := { w with rahProfile := p }) h.empty h.full hprof
  | setDefProfile p =>
    simp only [World.step]
    have hprof : ProfOK p ∧ ∀ q, w.rahProfile = some q → ProfOK q := ⟨hp, h.prof.2⟩
    split
    · exact winv_clear (w := { w with defProfile := p }) h.empty h.full hprof
    · rename_i hc
      refine { h with prof := hprof, coh := fun r hr => (h.coh r hr).trans ?_ }
      -- the default profile is unchanged or shadowed
      simp only [Bool.and_eq_true, decide_eq_true_eq, not_and, Bool.not_eq_true, Option.isNone_eq_false_iff,
        Option.isSome_iff_exists, ne_eq] at hc
      by_cases hpd : p = w.defProfile
      · subst hpd; rfl
      · obtain ⟨q, hq⟩ := hc hpd
        simp only [World.current, World.profile, World.inputs, hq, Option.getD_some]
  | setShip s =>
    simp only [World.step]
    split
    · exact h
    · exact winv_clear (w := { w with ship := s, shipC := [] }) h.empty h.full h.prof
  | shipMod ts s =>
    simp only [World.step]
    split
    · exact h
    · split
      · exact winv_clear (w := { w with ship := some s, shipC := _ }) h.empty h.full h.prof
      · rename_i hship hun
        -- nothing cached among `ts`: then no results are stored
        refine winv_of_res_none (w := { w with ship := some s }) ?_ h.full h.prof
        by_contra hr
        obtain ⟨_, _, hc⟩ := h.cached (Option.isSome_iff_ne_none.mpr hr)
          (Option.isSome_iff_ne_none.mpr (mt Option.isNone_iff_eq_none.mpr hship))
        obtain ⟨t, ht⟩ := List.exists_mem_of_ne_nil ts hp
        exact hun (List.any_eq_true.mpr ⟨t, ht, by simpa using hc t⟩)
  | setShift i v =>
    obtain ⟨sv, rfl, hsv⟩ := hp
    simp only [World.step]
    have hfull : ∀ x : RahW, RahFull x.rah → RahFull { x.rah with shift := some sv } := fun x hx =>
      ⟨{ hx.ok with shift_nonneg := fun _ e => Option.some.inj e ▸ hsv.le }, ⟨sv, rfl, hsv⟩, hx.dur⟩
    split
    · exact winv_clear_modify h i hfull
    · rename_i hun
      exact winv_modify h i hfull (fun _ => rfl) fun h1 h2 => modify_void _ (h.cached h1 h2).1 (eq_false_of_ne_true hun)
  | setDur i v =>
    obtain ⟨d', rfl, hd'⟩ := hp
    simp only [World.step]
    have hfull : ∀ x : RahW, RahFull x.rah → RahFull { x.rah with dur := some d' } := fun x hx =>
      ⟨{ hx.ok with dur_pos := fun _ e => Option.some.inj e ▸ hd' }, hx.shift, ⟨d', rfl, hd'⟩⟩
    split
    · exact winv_clear_modify h i hfull
    · rename_i hcond
      by_cases hlen : 1 < w.rahs.length
      · exact winv_modify h i hfull (fun _ => rfl) fun h1 h2 =>
          modify_void _ ((h.cached h1 h2).2.1 hlen)
            (eq_false_of_ne_true fun e => hcond (Bool.and_intro (decide_eq_true hlen) e))
      · refine ⟨fun r hr => (h.coh r hr).trans (current_setDur_single hlen h.full hd' i),
          fun e => h.empty (List.modify_eq_nil_iff.mp e), forall_mem_modify hfull h.full, h.prof, fun h1 h2 => ?_⟩
        obtain ⟨a, _, c⟩ := h.cached h1 h2
        refine ⟨forall_mem_modify (p := fun x : RahW => x.shiftC = true) ?_ a,
          fun hl => absurd (List.length_modify .. ▸ hl) hlen, c⟩
        exact fun _ hx => hx
  | setBase i v =>
    exact winv_clear_modify h i fun x hx => ⟨{ hx.ok with sum_gt := hp.1, le_one := hp.2 }, hx.shift, hx.dur⟩
  | start r sc dc =>
    refine winv_of_res_none (w := { w with rahs := w.rahs ++ [⟨r, sc, dc⟩], res := none, shipC := [] }) rfl
      (fun x hx => ?_) h.prof
    rcases List.mem_append.mp hx with hx | hx
    · exact h.full x hx
    · cases List.mem_singleton.mp hx; exact hp
  | stop i =>
    exact winv_of_res_none (w := { w with rahs := w.rahs.eraseIdx i, res := none, shipC := [] }) rfl
      (fun x hx => h.full x (List.mem_of_mem_eraseIdx hx)) h.prof

theorem winv_run {shipFn : σ → List Vec → Option Vec} (hs : ShipFnOK shipFn) {maxT : Nat} :
    ∀ (ops : List (Op σ)) {w : World σ}, WInv shipFn maxT w → (∀ op ∈ ops, ValidOp op) →
      WInv shipFn maxT (w.run shipFn maxT ops)
  | [], _, h, _ => h
  | op :: ops, _, h, hp =>
    winv_run hs ops (winv_step hs h op (hp op List.mem_cons_self)) fun o ho => hp o (List.mem_cons_of_mem _ ho)

end Eos.Rah
