import EosModel.Keyed
/-! The two adding methods of `KeyedStorage` are instances of `addWith g` (apply `g` to the bucket of the key, creating
    it from `[]`), the three removing ones (`rm_data_set`, `rm_data_entry`, `del`) of `rmWith g` (apply `g`, delete the
    key if nothing is left).  Keys, the bucket read, `Inv` (one bucket per key, buckets are sets) and `NoEmpty` are
    proved once for each of the two. -/
namespace Eos.Keyed

def Inv (s : Store) : Prop := (keys s).Nodup ∧ ∀ p ∈ s, p.2.Nodup
def NoEmpty (s : Store) : Prop := ∀ p ∈ s, p.2 ≠ []

theorem mem_insertNew {b : List Nat} {v x : Nat} : x ∈ insertNew b v ↔ x ∈ b ∨ x = v := by
  unfold insertNew; split
  · next hv => exact ⟨.inl, fun h => h.elim id (· ▸ hv)⟩
  · simp
theorem nodup_insertNew {b : List Nat} {v : Nat} (h : b.Nodup) : (insertNew b v).Nodup := by
  unfold insertNew; split
  · exact h
  · next hv =>
    exact List.nodup_append.2 ⟨h, List.nodup_cons.2 ⟨List.not_mem_nil, .nil⟩,
      fun x hx y hy e => hv (List.mem_singleton.1 hy ▸ e ▸ hx)⟩
theorem insertNew_ne_nil {b : List Nat} {v : Nat} : insertNew b v ≠ [] :=
  List.ne_nil_of_mem (mem_insertNew.2 (.inr rfl))
theorem mem_union {d b : List Nat} {x : Nat} : x ∈ union b d ↔ x ∈ b ∨ x ∈ d := by
  induction d generalizing b with
  | nil => simp [union]
  | cons a d ih => rw [union, List.foldl_cons, ← union, ih, mem_insertNew]; simp [or_assoc]
theorem nodup_union {d b : List Nat} (h : b.Nodup) : (union b d).Nodup := by
  induction d generalizing b with
  | nil => exact h
  | cons a d ih => exact ih (nodup_insertNew h)
theorem mem_diff {b d : List Nat} {x : Nat} : x ∈ diff b d ↔ x ∈ b ∧ x ∉ d := by simp [diff]
theorem diff_self (b : List Nat) : diff b b = [] :=
  List.eq_nil_iff_forall_not_mem.2 fun _ hx => (mem_diff.1 hx).2 (mem_diff.1 hx).1
theorem union_ne_nil {b d : List Nat} (h : d ≠ []) : union b d ≠ [] :=
  let ⟨_, hx⟩ := List.exists_mem_of_ne_nil _ h
  List.ne_nil_of_mem (mem_union.2 (.inr hx))
theorem union_eq_append {d b : List Nat} (h : (b ++ d).Nodup) : union b d = b ++ d := by
  induction d generalizing b with
  | nil => simp [union]
  | cons a d ih =>
    have ha : a ∉ b := fun hm => (List.nodup_append.1 h).2.2 a hm a List.mem_cons_self rfl
    rw [union, List.foldl_cons, ← union, insertNew, if_neg ha, ih (by simpa using h), List.append_assoc]; rfl

theorem mem_keys_cons {a k : Nat} {b : List Nat} {s : Store} : k ∈ keys ((a, b) :: s) ↔ k = a ∨ k ∈ keys s :=
  List.mem_cons
theorem bucket_cons {s : Store} {a k : Nat} {b} : bucket ((a, b) :: s) k = if a = k then b else bucket s k := rfl
theorem bucket_of_not_mem_keys {s : Store} {k : Nat} (h : k ∉ keys s) : bucket s k = [] := by
  induction s with
  | nil => rfl
  | cons p s ih =>
    rw [mem_keys_cons, not_or] at h
    rw [bucket_cons, if_neg (Ne.symm h.1), ih h.2]
theorem nodup_bucket {s : Store} (h : ∀ p ∈ s, p.2.Nodup) {k : Nat} : (bucket s k).Nodup := by
  induction s with
  | nil => exact .nil
  | cons p s ih =>
    rw [bucket]; split
    · exact h p List.mem_cons_self
    · exact ih fun q hq => h q (List.mem_cons_of_mem _ hq)
theorem inv_cons {a : Nat} {b : List Nat} {s : Store} : Inv ((a, b) :: s) ↔ a ∉ keys s ∧ b.Nodup ∧ Inv s := by
  simp only [Inv, keys, List.map_cons, List.nodup_cons, List.forall_mem_cons]
  exact ⟨fun ⟨⟨h1, h2⟩, h3, h4⟩ => ⟨h1, h3, h2, h4⟩, fun ⟨h1, h3, h2, h4⟩ => ⟨⟨h1, h2⟩, h3, h4⟩⟩
theorem noEmpty_cons {a : Nat} {b : List Nat} {s : Store} : NoEmpty ((a, b) :: s) ↔ b ≠ [] ∧ NoEmpty s :=
  List.forall_mem_cons
theorem inv_nil : Inv [] := ⟨.nil, fun _ h => nomatch h⟩
theorem noEmpty_nil : NoEmpty [] := fun _ h => nomatch h

def addWith (g : List Nat → List Nat) : Store → Nat → Store
  | [], k => [(k, g [])]
  | (k', b) :: s, k => if k' = k then (k', g b) :: s else (k', b) :: addWith g s k

theorem addSet_eq (s : Store) (k : Nat) (d) : addSet s k d = addWith (union · d) s k := by
  induction s with
  | nil => rfl
  | cons p s ih => simp only [addSet, addWith, ih]
theorem addEntry_eq (s : Store) (k v : Nat) : addEntry s k v = addWith (insertNew · v) s k := by
  induction s with
  | nil => simp [addEntry, addWith, insertNew]
  | cons p s ih => simp only [addEntry, addWith, ih]

section
variable {g : List Nat → List Nat}

theorem mem_keys_addWith {s : Store} {k k' : Nat} : k' ∈ keys (addWith g s k) ↔ k' ∈ keys s ∨ k' = k := by
  fun_induction addWith g s k with
  | case1 => simp [keys]
  | case2 => simp only [mem_keys_cons]; exact ⟨.inl, fun h => h.elim id .inl⟩
  | case3 _ _ _ _ _ ih => simp only [mem_keys_cons, ih, or_assoc]

theorem bucket_addWith {s : Store} {k k' : Nat} :
    bucket (addWith g s k) k' = if k' = k then g (bucket s k) else bucket s k' := by
  fun_induction addWith g s k with
  | case1 => simp [bucket, eq_comm]
  | case2 =>
    split
    · next e => subst e; simp only [bucket_cons, if_true]
    · next e => simp only [bucket_cons, if_neg (Ne.symm e)]
  | case3 _ _ _ _ h ih =>
    split
    · next e => subst e; rw [bucket_cons, bucket_cons, if_neg h, ih, if_pos rfl, if_neg h]
    · next e => rw [bucket_cons, ih, if_neg e, bucket_cons]

theorem mem_bucket_addWith {P : Nat → Prop} {s : Store} {k k' x : Nat} (hg : ∀ {b x}, x ∈ g b ↔ x ∈ b ∨ P x) :
    x ∈ bucket (addWith g s k) k' ↔ x ∈ bucket s k' ∨ (k' = k ∧ P x) := by
  rw [bucket_addWith]; split
  · next e => rw [hg, e, eq_self_iff_true, true_and]
  · next e => rw [eq_false e, false_and, or_false]

theorem inv_addWith {s : Store} {k : Nat} (hg : ∀ b, b.Nodup → (g b).Nodup) (h : Inv s) : Inv (addWith g s k) := by
  fun_induction addWith g s k with
  | case1 => exact inv_cons.2 ⟨by simp [keys], hg _ .nil, h⟩
  | case2 => exact inv_cons.2 ((inv_cons.1 h).imp_right (.imp_left (hg _)))
  | case3 _ _ _ _ hak ih =>
    exact inv_cons.2 ((inv_cons.1 h).imp (fun ha hm => (mem_keys_addWith.1 hm).elim ha hak) (.imp_right ih))

theorem noEmpty_addWith {s : Store} {k : Nat} (hg : ∀ b, g b ≠ []) (h : NoEmpty s) : NoEmpty (addWith g s k) := by
  fun_induction addWith g s k with
  | case1 => exact noEmpty_cons.2 ⟨hg _, h⟩
  | case2 => exact noEmpty_cons.2 ⟨hg _, (noEmpty_cons.1 h).2⟩
  | case3 _ _ _ _ _ ih => exact noEmpty_cons.2 ((noEmpty_cons.1 h).imp_right ih)

end

def rmWith (g : List Nat → List Nat) : Store → Nat → Store
  | [], _ => []
  | (k', b) :: s, k =>
    if k' = k then (if (g b).isEmpty then s else (k', g b) :: s) else (k', b) :: rmWith g s k

theorem rmSet_eq (s : Store) (k : Nat) (d) : rmSet s k d = rmWith (diff · d) s k := by
  induction s with
  | nil => rfl
  | cons p s ih => simp only [rmSet, rmWith, ih]
theorem rmEntry_eq (s : Store) (k v : Nat) : rmEntry s k v = rmWith (·.erase v) s k := by
  induction s with
  | nil => rfl
  | cons p s ih => simp only [rmEntry, rmWith, ih]
theorem delKey_eq (s : Store) (k : Nat) : delKey s k = rmWith (fun _ => []) s k := by
  induction s with
  | nil => rfl
  | cons p s ih => simp [delKey, rmWith, ih]

section
variable {g : List Nat → List Nat}

theorem keys_rmWith_sublist {s : Store} {k : Nat} : (keys (rmWith g s k)).Sublist (keys s) := by
  fun_induction rmWith g s k with
  | case1 => exact .slnil
  | case2 => exact .cons _ (.refl _)
  | case3 => exact .refl _
  | case4 _ _ _ _ _ ih => exact ih.cons_cons _

/-- `hg` is for a key that is not there: it reads `[]` before and after. -/
theorem bucket_rmWith {s : Store} {k k' : Nat} (hg : g [] = []) (h : (keys s).Nodup) :
    bucket (rmWith g s k) k' = if k' = k then g (bucket s k) else bucket s k' := by
  fun_induction rmWith g s k with
  | case1 => simp [bucket, hg]
  | case2 _ _ _ he =>
    split
    -- a dropped bucket reads `[]` afterwards because the key does not occur again
    · next e =>
      subst e; rw [bucket_cons, if_pos rfl, List.isEmpty_iff.1 he, bucket_of_not_mem_keys (List.nodup_cons.1 h).1]
    · next e => rw [bucket_cons, if_neg (Ne.symm e)]
  | case3 =>
    split
    · next e => subst e; simp only [bucket_cons, if_true]
    · next e => simp only [bucket_cons, if_neg (Ne.symm e)]
  | case4 _ _ _ _ hak ih =>
    split
    · next e => subst e; rw [bucket_cons, bucket_cons, if_neg hak, ih (List.nodup_cons.1 h).2, if_pos rfl, if_neg hak]
    · next e => rw [bucket_cons, ih (List.nodup_cons.1 h).2, if_neg e, bucket_cons]

theorem mem_bucket_rmWith {P : Nat → Prop} {s : Store} {k k' x : Nat} (h0 : g [] = []) (h : (keys s).Nodup)
    (hg : ∀ {x}, x ∈ g (bucket s k) ↔ x ∈ bucket s k ∧ ¬ P x) :
    x ∈ bucket (rmWith g s k) k' ↔ x ∈ bucket s k' ∧ ¬ (k' = k ∧ P x) := by
  rw [bucket_rmWith h0 h]; split
  · next e => rw [hg, e, eq_self_iff_true, true_and]
  · next e => rw [eq_false e, false_and, not_false_eq_true, and_true]

theorem inv_rmWith {s : Store} {k : Nat} (hg : ∀ b, b.Nodup → (g b).Nodup) (h : Inv s) : Inv (rmWith g s k) := by
  fun_induction rmWith g s k with
  | case1 => exact h
  | case2 => exact (inv_cons.1 h).2.2
  | case3 => exact inv_cons.2 ((inv_cons.1 h).imp_right (.imp_left (hg _)))
  | case4 _ _ _ _ _ ih =>
    exact inv_cons.2 ((inv_cons.1 h).imp (fun ha hm => ha (keys_rmWith_sublist.subset hm)) (.imp_right ih))

theorem noEmpty_rmWith {s : Store} {k : Nat} (h : NoEmpty s) : NoEmpty (rmWith g s k) := by
  fun_induction rmWith g s k with
  | case1 => exact h
  | case2 => exact (noEmpty_cons.1 h).2
  | case3 _ _ _ he => exact noEmpty_cons.2 ⟨fun e => he (by simp [e]), (noEmpty_cons.1 h).2⟩
  | case4 _ _ _ _ _ ih => exact noEmpty_cons.2 ((noEmpty_cons.1 h).imp_right ih)

theorem rmWith_key_clean {s : Store} {k : Nat} (h : (keys s).Nodup) :
    k ∉ keys (rmWith g s k) ∨ bucket (rmWith g s k) k ≠ [] := by
  fun_induction rmWith g s k with
  | case1 => exact .inl (by simp [keys])
  | case2 => exact .inl (List.nodup_cons.1 h).1
  | case3 _ _ _ he => exact .inr (by rw [bucket_cons, if_pos rfl]; exact fun e => he (by simp [e]))
  | case4 _ _ _ _ e ih =>
    rw [mem_keys_cons, bucket_cons, if_neg e, not_or]
    exact (ih (List.nodup_cons.1 h).2).imp_left fun h => ⟨Ne.symm e, h⟩

end

theorem inv_addSet {s : Store} {k : Nat} {d} (h : Inv s) : Inv (addSet s k d) :=
  addSet_eq .. ▸ inv_addWith (fun _ => nodup_union) h
theorem inv_addEntry {s : Store} {k v : Nat} (h : Inv s) : Inv (addEntry s k v) :=
  addEntry_eq .. ▸ inv_addWith (fun _ => nodup_insertNew) h
theorem inv_rmSet {s : Store} {k : Nat} {d} (h : Inv s) : Inv (rmSet s k d) :=
  rmSet_eq .. ▸ inv_rmWith (fun _ hb => hb.sublist List.filter_sublist) h
theorem inv_rmEntry {s : Store} {k v : Nat} (h : Inv s) : Inv (rmEntry s k v) :=
  rmEntry_eq .. ▸ inv_rmWith (fun _ hb => hb.sublist List.erase_sublist) h
theorem inv_delKey {s : Store} {k : Nat} (h : Inv s) : Inv (delKey s k) :=
  delKey_eq .. ▸ inv_rmWith (fun _ _ => .nil) h

theorem inv_step {s : Store} (op : Op) (h : Inv s) : Inv (step s op) := by
  cases op with
  | addSet => exact inv_addSet h
  | rmSet => exact inv_rmSet h
  | addEntry => exact inv_addEntry h
  | rmEntry => exact inv_rmEntry h
  | delKey => exact inv_delKey h

theorem no_residue {s : Store} (h : NoEmpty s) (he : ∀ k, bucket s k = []) : s = [] := by
  cases s with
  | nil => rfl
  | cons p s => obtain ⟨a, b⟩ := p; exact absurd (by simpa [bucket] using he a) (noEmpty_cons.1 h).1

/-- the calls of a history that cannot create an empty bucket: every call but `add_data_set(key, ())` -/
def Op.Guarded : Op → Prop
  | .addSet _ d => d ≠ []
  | _ => True

theorem noEmpty_step {s : Store} (op : Op) (hg : op.Guarded) (h : NoEmpty s) : NoEmpty (step s op) := by
  cases op with
  | addSet k d => exact (addSet_eq s k d ▸ noEmpty_addWith (fun _ => union_ne_nil hg) h : NoEmpty (addSet s k d))
  | rmSet k d => exact (rmSet_eq s k d ▸ noEmpty_rmWith h : NoEmpty (rmSet s k d))
  | addEntry k v => exact (addEntry_eq s k v ▸ noEmpty_addWith (fun _ => insertNew_ne_nil) h : NoEmpty (addEntry s k v))
  | rmEntry k v => exact (rmEntry_eq s k v ▸ noEmpty_rmWith h : NoEmpty (rmEntry s k v))
  | delKey k => exact (delKey_eq s k ▸ noEmpty_rmWith h : NoEmpty (delKey s k))

theorem mem_bucket_foldl_addEntry (ts : List Nat) (p : Nat) {b : Store} {t' p' : Nat} :
    p' ∈ bucket (ts.foldl (fun b t => addEntry b t p) b) t' ↔ p' ∈ bucket b t' ∨ (t' ∈ ts ∧ p' = p) := by
  induction ts generalizing b with
  | nil => simp
  | cons t ts ih =>
    rw [List.foldl_cons, ih, addEntry_eq, mem_bucket_addWith mem_insertNew, List.mem_cons, or_and_right, or_assoc]
theorem mem_bucket_foldl_rmEntry (ts : List Nat) (p : Nat) {b : Store} (h : Inv b) {t' p' : Nat} :
    p' ∈ bucket (ts.foldl (fun b t => rmEntry b t p) b) t' ↔ p' ∈ bucket b t' ∧ ¬ (t' ∈ ts ∧ p' = p) := by
  induction ts generalizing b with
  | nil => simp
  | cons t ts ih =>
    rw [List.foldl_cons, ih (inv_rmEntry h), rmEntry_eq,
      mem_bucket_rmWith rfl h.1 ((nodup_bucket h.2).mem_erase_iff.trans and_comm), List.mem_cons, or_and_right,
      not_or, and_assoc]

def ProjReg.Conv (r : ProjReg) : Prop :=
  Inv r.projTgts ∧ Inv r.tgtProjs ∧ ∀ p t, t ∈ bucket r.projTgts p ↔ p ∈ bucket r.tgtProjs t

theorem conv_init : ({} : ProjReg).Conv := ⟨inv_nil, inv_nil, fun _ _ => ⟨(fun h => nomatch h), (fun h => nomatch h)⟩⟩

theorem conv_apply {r : ProjReg} (p : Nat) (ts : List Nat) (h : r.Conv) : (r.apply p ts).Conv := by
  obtain ⟨h1, h2, h3⟩ := h
  refine ⟨inv_addSet h1, List.foldlRecOn ts _ h2 fun _ hb _ _ => inv_addEntry hb, fun p' t' => ?_⟩
  simp only [ProjReg.apply]
  rw [mem_bucket_foldl_addEntry, ← h3, addSet_eq, mem_bucket_addWith mem_union, and_comm]
theorem conv_unapply {r : ProjReg} (p : Nat) (ts : List Nat) (h : r.Conv) : (r.unapply p ts).Conv := by
  obtain ⟨h1, h2, h3⟩ := h
  refine ⟨inv_rmSet h1, List.foldlRecOn ts _ h2 fun _ hb _ _ => inv_rmEntry hb, fun p' t' => ?_⟩
  simp only [ProjReg.unapply]
  rw [mem_bucket_foldl_rmEntry ts p h2, ← h3, rmSet_eq, mem_bucket_rmWith (g := (diff · ts)) rfl h1.1 mem_diff,
    and_comm (a := p' = p)]

end Eos.Keyed
