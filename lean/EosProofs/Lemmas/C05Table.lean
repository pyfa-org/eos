import EosProofs.Lemmas.C05Check
import EosGen.EffectStatusTable
/-! The whole table in one declaration: see `stemsOk`. -/
namespace Eos.C05
open Eos.EffectStatus EosGen.EffectStatusTable

theorem table_ok : tableOk [
    (.offline, 1, [part11c0, part11c1, part11c2, part11c3, part11c4]),
    (.offline, 2, [part12c0, part12c1, part12c2, part12c3, part12c4]),
    (.offline, 3, [part13c0, part13c1, part13c2, part13c3, part13c4]),
    (.offline, 4, [part14c0, part14c1, part14c2, part14c3, part14c4]),
    (.offline, 5, [part15c0, part15c1, part15c2, part15c3, part15c4]),
    (.online, 1, [part21c0, part21c1, part21c2, part21c3, part21c4]),
    (.online, 2, [part22c0, part22c1, part22c2, part22c3, part22c4]),
    (.online, 3, [part23c0, part23c1, part23c2, part23c3, part23c4]),
    (.online, 4, [part24c0, part24c1, part24c2, part24c3, part24c4]),
    (.online, 5, [part25c0, part25c1, part25c2, part25c3, part25c4]),
    (.active, 1, [part31c0, part31c1, part31c2, part31c3, part31c4]),
    (.active, 2, [part32c0, part32c1, part32c2, part32c3, part32c4]),
    (.active, 3, [part33c0, part33c1, part33c2, part33c3, part33c4]),
    (.active, 4, [part34c0, part34c1, part34c2, part34c3, part34c4]),
    (.active, 5, [part35c0, part35c1, part35c2, part35c3, part35c4]),
    (.overload, 1, [part41c0, part41c1, part41c2, part41c3, part41c4]),
    (.overload, 2, [part42c0, part42c1, part42c2, part42c3, part42c4]),
    (.overload, 3, [part43c0, part43c1, part43c2, part43c3, part43c4]),
    (.overload, 4, [part44c0, part44c1, part44c2, part44c3, part44c4]),
    (.overload, 5, [part45c0, part45c1, part45c2, part45c3, part45c4])] = true := by decide +kernel

end Eos.C05
