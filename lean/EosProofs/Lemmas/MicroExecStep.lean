import EosModel.WorldMicroExec
import EosProofs.Lemmas.MicroLegal
/-! The driver's message step (`EosModel/WorldMicroExec.lean`, run by `Driver/Micro.lean`) computes the `mstep` the
theorems of `Props/C01World.lean` are about, and its executable checks are the side conditions of those theorems —
except for `reconfig`, whose side condition is not executable: `stepOKb` answers `true` there.  The check is sound on
`DynFin` registers, complete always. -/
namespace Eos.Micro
open Eos.World Eos.DepCache Eos.Micro.L

variable {u : Universe}

theorem tblFun_filter (p : Node → Bool) (T : Tbl) (n : Node) :
    tblFun (T.filter fun e => p e.1) n = if p n then tblFun T n else none := by
  unfold tblFun
  induction T with
  | nil => simp
  | cons e T ih =>
    by_cases hp : p e.1 = true
    · simp only [List.filter_cons, hp, if_true]
      by_cases he : e.1 = n
      · rw [List.find?_cons_of_pos (by simpa using he), List.find?_cons_of_pos (by simpa using he), ← he, if_pos hp]
      · rw [List.find?_cons_of_neg (by simpa using he), List.find?_cons_of_neg (by simpa using he)]; exact ih
    · simp only [List.filter_cons, hp, Bool.false_eq_true, if_false]
      by_cases he : e.1 = n
      · rw [ih, ← he, if_neg hp, if_neg hp]
      · rw [List.find?_cons_of_neg (by simpa using he)]; exact ih

theorem tblFun_drop (T : Tbl) (n : Node) : tblFun (T.drop n) = dropNode (tblFun T) n := by
  funext x
  refine (tblFun_filter (fun k => k != n) T x).trans ?_
  unfold dropNode
  by_cases h : x = n
  · simp [h]
  · simp [h]

theorem tblFun_unload (T : Tbl) (i : Nat) :
    tblFun (T.filter fun e => e.1.1 != i) = fun n => if n.1 = i then none else tblFun T n := by
  funext n
  refine (tblFun_filter (fun k => k.1 != i) T n).trans ?_
  by_cases h : n.1 = i
  · simp [h]
  · simp [h]

theorem cascT_visitT_eq (cfg : Config) (d : Dyn) : ∀ fuel : Nat,
    (∀ (T : Tbl) (n : Node), tblFun (cascT u cfg d fuel T n) = casc u cfg d fuel (tblFun T) n) ∧
    (∀ (T : Tbl) (t : Node), tblFun (visitT u cfg d fuel T t) = visit u cfg d fuel (tblFun T) t) := by
  have hv : ∀ fuel, (∀ (T : Tbl) (n : Node), tblFun (cascT u cfg d fuel T n) = casc u cfg d fuel (tblFun T) n) →
      ∀ (T : Tbl) (t : Node), tblFun (visitT u cfg d fuel T t) = visit u cfg d fuel (tblFun T) t := by
    intro fuel hc T t
    rw [visitT, visit]
    cases hk : tblFun T t with
    | none => simp
    | some v => simp only [Option.isNone_some, Bool.false_eq_true, if_false, reduceCtorEq]; rw [hc, tblFun_drop]
  intro fuel
  induction fuel with
  | zero =>
    have hc : ∀ (T : Tbl) (n : Node), tblFun (cascT u cfg d 0 T n) = casc u cfg d 0 (tblFun T) n := by
      intro T n; rw [cascT, casc]
    exact ⟨hc, hv 0 hc⟩
  | succ f ih =>
    have hc : ∀ (T : Tbl) (n : Node),
        tblFun (cascT u cfg d (f + 1) T n) = casc u cfg d (f + 1) (tblFun T) n := by
      intro T n; rw [cascT, casc]
      exact (List.foldl_hom tblFun fun T t => (ih.2 T t).symm).symm
    exact ⟨hc, hv (f + 1) hc⟩

theorem cascT_eq (cfg : Config) (d : Dyn) (fuel : Nat) (T : Tbl) (n : Node) :
    tblFun (cascT u cfg d fuel T n) = casc u cfg d fuel (tblFun T) n := (cascT_visitT_eq cfg d fuel).1 T n

theorem visitT_eq (cfg : Config) (d : Dyn) (fuel : Nat) (T : Tbl) (t : Node) :
    tblFun (visitT u cfg d fuel T t) = visit u cfg d fuel (tblFun T) t := (cascT_visitT_eq cfg d fuel).2 T t

theorem visitAllT_eq (cfg : Config) (d : Dyn) (fuel : Nat) (T : Tbl) (l : List Node) :
    tblFun (visitAllT u cfg d fuel T l) = visitAll u cfg d fuel (tblFun T) l :=
  (List.foldl_hom tblFun fun T t => (visitT_eq cfg d fuel T t).symm).symm

theorem TState.toM_eq (s : TState) {K : Cache} (h : tblFun s.tbl = K) : s.toM = ⟨s.cfg, s.dyn, K⟩ := h ▸ rfl

theorem mstepT_toM (s : TState) (st : MStep) : (mstepT u s st).toM = mstep u s.toM st := by
  cases st with
  | unload i => exact TState.toM_eq _ (tblFun_unload s.tbl i)
  | start i es | stop i es | apply i e ts | unapply i e ts => exact TState.toM_eq _ (visitAllT_eq ..)
  | changed i attr => exact TState.toM_eq _ (cascT_eq ..)
  | read S | load i | buffset i e ms | reconfig cfg' => rfl

def Named (u : Universe) (cfg : Config) (i : Nat) (e : Int) : Prop := ∃ x ∈ cfg.items, x.id = i ∧ e ∈ effsOf u x

variable {cfg : Config} {d : Dyn}

theorem namedb_iff {i : Nat} {e : Int} : namedb u cfg i e = true ↔ Named u cfg i e := by
  unfold namedb Named
  simp only [List.any_eq_true, Bool.and_eq_true, beq_iff_eq, List.contains_iff_mem]

theorem compactDyn_loaded (i : Nat) :
    (compactDyn u cfg d).loaded i = true ↔ d.loaded i = true ∧ ∃ x ∈ cfg.items, x.id = i := by
  show ((cfg.items.filter fun x => d.loaded x.id).map (·.id)).contains i = true ↔ _
  simp only [List.contains_iff_mem, List.mem_map, List.mem_filter]
  constructor
  · rintro ⟨x, ⟨hx, hl⟩, rfl⟩; exact ⟨hl, x, hx, rfl⟩
  · rintro ⟨hl, x, hx, rfl⟩; exact ⟨x, ⟨hx, hl⟩, rfl⟩

theorem compactDyn_on (i : Nat) (e : Int) :
    (compactDyn u cfg d).on i e = true ↔ d.on i e = true ∧ Named u cfg i e := by
  show (cfg.items.flatMap fun x => ((effsOf u x).filter fun e => d.on x.id e).map fun e => (x.id, e)).contains (i, e)
    = true ↔ _
  simp only [List.contains_iff_mem, List.mem_flatMap, List.mem_map, List.mem_filter, Prod.mk.injEq, Named]
  constructor
  · rintro ⟨x, hx, e', ⟨he', hon⟩, rfl, rfl⟩; exact ⟨hon, x, hx, rfl, he'⟩
  · rintro ⟨hon, x, hx, rfl, he'⟩; exact ⟨x, hx, e, ⟨he', hon⟩, rfl, rfl⟩

/-- The table `compactDyn` builds for a register `f` of lists per (item, effect): the non-empty entries of
the configuration's items and their types' effects. -/
def pairTbl {α : Type} (u : Universe) (cfg : Config) (f : Nat → Int → List α) : List ((Nat × Int) × List α) :=
  cfg.items.flatMap fun x => (effsOf u x).filterMap fun e =>
    if (f x.id e).isEmpty then none else some ((x.id, e), f x.id e)

theorem mem_pairTbl {α : Type} {f : Nat → Int → List α} {p : (Nat × Int) × List α} :
    p ∈ pairTbl u cfg f ↔ Named u cfg p.1.1 p.1.2 ∧ p.2 = f p.1.1 p.1.2 ∧ p.2 ≠ [] := by
  simp only [pairTbl, List.mem_flatMap, List.mem_filterMap, Named]
  constructor
  · rintro ⟨x, hx, e, he, h⟩
    split at h
    · cases h
    · rename_i hne
      cases h
      exact ⟨⟨x, hx, rfl, he⟩, rfl, by simpa using hne⟩
  · rintro ⟨⟨x, hx, hi, he⟩, h2, hne⟩
    refine ⟨x, hx, p.1.2, he, ?_⟩
    rw [hi, ← h2, if_neg (by simpa using hne)]

theorem pairTbl_lookup {α : Type} (f : Nat → Int → List α) (i : Nat) (e : Int) :
    (Named u cfg i e → (((pairTbl u cfg f).find? (·.1 == (i, e))).map (·.2)).getD [] = f i e) ∧
    (¬ Named u cfg i e → (((pairTbl u cfg f).find? (·.1 == (i, e))).map (·.2)).getD [] = []) := by
  cases hf : (pairTbl u cfg f).find? (·.1 == (i, e)) with
  | none =>
    refine ⟨fun hn => ?_, fun _ => rfl⟩
    cases ht : f i e with
    | nil => rfl
    | cons t ts =>
      have := List.find?_eq_none.1 hf ((i, e), f i e) (mem_pairTbl.2 ⟨hn, rfl, by rw [ht]; simp⟩)
      simp at this
  | some p =>
    have hp := mem_pairTbl.1 (List.mem_of_find?_eq_some hf)
    have hk : p.1 = (i, e) := by simpa using List.find?_some hf
    rw [hk] at hp
    exact ⟨fun _ => hp.2.1, fun hn => absurd hp.1 hn⟩

def tgtTbl (u : Universe) (cfg : Config) (d : Dyn) : List ((Nat × Int) × List Nat) := pairTbl u cfg d.tgts

theorem mem_tgtTbl {p : (Nat × Int) × List Nat} :
    p ∈ tgtTbl u cfg d ↔ Named u cfg p.1.1 p.1.2 ∧ p.2 = d.tgts p.1.1 p.1.2 ∧ p.2 ≠ [] := mem_pairTbl

theorem compactDyn_tgts (i : Nat) (e : Int) :
    (Named u cfg i e → (compactDyn u cfg d).tgts i e = d.tgts i e) ∧
    (¬ Named u cfg i e → (compactDyn u cfg d).tgts i e = []) := pairTbl_lookup d.tgts i e

theorem compactDyn_bspecs (i : Nat) (e : Int) :
    (Named u cfg i e → (compactDyn u cfg d).bspecs i e = d.bspecs i e) ∧
    (¬ Named u cfg i e → (compactDyn u cfg d).bspecs i e = []) := pairTbl_lookup d.bspecs i e

/-- On the named keys the re-packing changes nothing (the hypothesis of `DynFin.ext` below). -/
theorem compactDyn_of_mem {x : Item} (hx : x ∈ cfg.items) :
    (compactDyn u cfg d).loaded x.id = d.loaded x.id ∧
    ∀ e ∈ effsOf u x, (compactDyn u cfg d).on x.id e = d.on x.id e ∧
      (compactDyn u cfg d).tgts x.id e = d.tgts x.id e ∧
      (compactDyn u cfg d).bspecs x.id e = d.bspecs x.id e :=
  ⟨Bool.eq_iff_iff.2 ((compactDyn_loaded x.id).trans (and_iff_left ⟨x, hx, rfl⟩)), fun e he =>
    have hn : Named u cfg x.id e := ⟨x, hx, rfl, he⟩
    ⟨Bool.eq_iff_iff.2 ((compactDyn_on x.id e).trans (and_iff_left hn)), (compactDyn_tgts x.id e).1 hn,
      (compactDyn_bspecs x.id e).1 hn⟩⟩

theorem typeOf?_compactDyn {x : Item} (hx : x ∈ cfg.items) : typeOf? u (compactDyn u cfg d) x = typeOf? u d x :=
  typeOf?_congr (compactDyn_of_mem hx).1

theorem typeEffects_effsOf {x : Item} {e : Effect} (he : e ∈ typeEffects u d x) : e.id ∈ effsOf u x := by
  unfold typeEffects typeOf? at he
  unfold effsOf
  split at he
  · cases he
  · rename_i ty ht
    split at ht
    · obtain ⟨k, hk, hke⟩ := List.mem_filterMap.1 he
      rw [ht, effect?_id hke]; exact hk
    · cases ht

theorem running_compactDyn {x : Item} (hx : x ∈ cfg.items) : running u (compactDyn u cfg d) x = running u d x := by
  unfold running
  have ht : typeEffects u (compactDyn u cfg d) x = typeEffects u d x := by
    unfold typeEffects; rw [typeOf?_compactDyn hx]
  rw [ht]
  exact List.filter_congr fun e he => ((compactDyn_of_mem hx).2 _ (typeEffects_effsOf he)).1

theorem targetsOf_compactDyn {x : Item} (hx : x ∈ cfg.items) {e : Effect} (he : e ∈ running u d x) :
    targetsOf cfg (compactDyn u cfg d) x e = targetsOf cfg d x e := by
  unfold targetsOf
  rw [((compactDyn_of_mem hx).2 _ (typeEffects_effsOf (List.mem_filter.1 he).1)).2.1]

/-- The registers speak only about items of the configuration and effects of their types (what the messages
of the real code ever mention; the driver's state after every message). -/
structure DynFin (u : Universe) (cfg : Config) (d : Dyn) : Prop where
  loaded : ∀ i, d.loaded i = true → ∃ x ∈ cfg.items, x.id = i
  on : ∀ i e, d.on i e = true → Named u cfg i e
  tgts : ∀ i e, d.tgts i e ≠ [] → Named u cfg i e
  bspecs : ∀ i e, d.bspecs i e ≠ [] → Named u cfg i e

theorem dynFin_idle {l : Nat → Bool} (hl : ∀ i, l i = true → ∃ x ∈ cfg.items, x.id = i) :
    DynFin u cfg { loaded := l, on := fun _ _ => false, tgts := fun _ _ => [] } :=
  ⟨hl, fun _ _ h => (nomatch h), fun _ _ h => absurd rfl h, fun _ _ h => absurd rfl h⟩

theorem dynFin_compactDyn : DynFin u cfg (compactDyn u cfg d) where
  loaded := fun i h => ((compactDyn_loaded i).1 h).2
  on := fun i e h => ((compactDyn_on i e).1 h).2
  tgts := fun i e h => Classical.byContradiction fun hn => h ((compactDyn_tgts i e).2 hn)
  bspecs := fun i e h => Classical.byContradiction fun hn => h ((compactDyn_bspecs i e).2 hn)

/-- Registers that name only configured items and effects of their types are determined by their values there. -/
theorem DynFin.ext (h : DynFin u cfg d) (h' : DynFin u cfg d')
    (heq : ∀ x ∈ cfg.items, d.loaded x.id = d'.loaded x.id ∧ ∀ e ∈ effsOf u x,
      d.on x.id e = d'.on x.id e ∧ d.tgts x.id e = d'.tgts x.id e ∧ d.bspecs x.id e = d'.bspecs x.id e) : d = d' := by
  have key : ∀ i e, Named u cfg i e →
      d.on i e = d'.on i e ∧ d.tgts i e = d'.tgts i e ∧ d.bspecs i e = d'.bspecs i e :=
    fun i e ⟨x, hx, hi, he⟩ => hi ▸ (heq x hx).2 e he
  -- off the named pairs both registers hold the empty value
  have lists : ∀ {α : Type} (f f' : Nat → Int → List α), (∀ i e, f i e ≠ [] → Named u cfg i e) →
      (∀ i e, f' i e ≠ [] → Named u cfg i e) → (∀ i e, Named u cfg i e → f i e = f' i e) → f = f' :=
    fun f f' hf hf' hn => funext fun i => funext fun e => Classical.byCases (hn i e) fun hne =>
      (Classical.not_not.1 (mt (hf i e) hne)).trans (Classical.not_not.1 (mt (hf' i e) hne)).symm
  have hl : d.loaded = d'.loaded := funext fun i => Bool.eq_iff_iff.2
    ⟨fun hi => by obtain ⟨x, hx, rfl⟩ := h.loaded i hi; exact (heq x hx).1 ▸ hi,
     fun hi => by obtain ⟨x, hx, rfl⟩ := h'.loaded i hi; exact (heq x hx).1 ▸ hi⟩
  have ho : d.on = d'.on := funext fun i => funext fun e => Bool.eq_iff_iff.2
    ⟨fun hi => (key i e (h.on i e hi)).1 ▸ hi, fun hi => (key i e (h'.on i e hi)).1 ▸ hi⟩
  have ht := lists d.tgts d'.tgts h.tgts h'.tgts fun i e hn => (key i e hn).2.1
  have hb := lists d.bspecs d'.bspecs h.bspecs h'.bspecs fun i e hn => (key i e hn).2.2
  cases d; cases d'; cases hl; cases ho; cases ht; cases hb; rfl

theorem compactDyn_eq_self (h : DynFin u cfg d) : compactDyn u cfg d = d :=
  dynFin_compactDyn.ext h fun _ => compactDyn_of_mem

/-- The specification's derived registers name only configured items and effects of their types, provided a
projectable effect projects only from items whose type lists it (`derivedDyn` records targets for every effect of
the universe). -/
theorem dynFin_derivedDyn (hp : ∀ x ∈ cfg.items, ∀ ef ∈ u.effects, projectionTargets cfg x ef ≠ [] → ef.id ∈ effsOf u x) :
    DynFin u cfg (derivedDyn u cfg) := by
  refine ⟨fun i hi => ?_, fun i e hi => ?_, fun i e hi => ?_, fun i e hi => absurd rfl hi⟩
  all_goals
    simp only [derivedDyn] at hi
    cases hx : item? cfg i with
    | none => rw [hx] at hi; first | cases hi | exact absurd rfl hi
    | some x => ?_
  · exact ⟨x, item?_mem hx, item?_id hx⟩
  · rw [hx] at hi
    refine ⟨x, item?_mem hx, item?_id hx, ?_⟩
    obtain ⟨ef, hef, rfl⟩ := List.mem_map.1 (List.contains_iff_mem.1 hi)
    unfold runningEffects itemType? at hef
    unfold effsOf
    split at hef
    · cases hef
    · rename_i ty hty
      split at hty
      · obtain ⟨k, hk, hke⟩ := List.mem_filterMap.1 (List.mem_filter.1 hef).1
        rw [hty, effect?_id hke]; exact hk
      · cases hty
  · rw [hx] at hi
    refine ⟨x, item?_mem hx, item?_id hx, ?_⟩
    cases he : effect? u e with
    | none => rw [he] at hi; exact absurd rfl hi
    | some ef =>
      rw [he] at hi
      rw [← effect?_id he]
      exact hp x (item?_mem hx) ef (List.mem_of_find?_eq_some he) fun h0 => hi (by show (projectionTargets cfg x ef).map _ = []; rw [h0]; rfl)

/-- A message rewrites one register at one key, so only messages that can make an entry non-empty carry a condition:
`stop`, `unapply`, `unload`, `changed` carry none, `apply` and `buffset` only for a non-empty list. -/
def StepFin (u : Universe) (cfg : Config) (d : Dyn) : MStep → Prop
  | .load i => ∃ x ∈ cfg.items, x.id = i
  | .start i es => ∀ e ∈ es, Named u cfg i e
  | .apply i e ts => ts ≠ [] → Named u cfg i e
  | .buffset i e ms => ms ≠ [] → Named u cfg i e
  | .reconfig cfg' => DynFin u cfg' d
  | _ => True

theorem DynFin.setLoaded (h : DynFin u cfg d) {i : Nat} {v : Bool} (hv : v = true → ∃ x ∈ cfg.items, x.id = i) :
    DynFin u cfg (L.setLoaded d i v) := by
  refine ⟨fun j hj => ?_, h.on, h.tgts, h.bspecs⟩
  change (if j = i then v else d.loaded j) = true at hj
  split at hj
  · exact ‹j = i› ▸ hv hj
  · exact h.loaded j hj

theorem DynFin.setOn (h : DynFin u cfg d) {i : Nat} {es : List Int} {v : Bool}
    (hv : v = true → ∀ e ∈ es, Named u cfg i e) : DynFin u cfg (setOn d i es v) := by
  refine ⟨h.loaded, fun j e hj => ?_, h.tgts, h.bspecs⟩
  change (if j = i ∧ e ∈ es then v else d.on j e) = true at hj
  split at hj
  · rename_i hc; exact hc.1 ▸ hv hj e hc.2
  · exact h.on j e hj

theorem DynFin.setTgts (h : DynFin u cfg d) {i : Nat} {e : Int} {ts : List Nat} (hts : ts ≠ [] → Named u cfg i e) :
    DynFin u cfg (setTgts d i e ts) := by
  refine ⟨h.loaded, h.on, fun j f hj => ?_, h.bspecs⟩
  change (if j = i ∧ f = e then ts else d.tgts j f) ≠ [] at hj
  split at hj
  · rename_i hc; exact hc.1 ▸ hc.2 ▸ hts hj
  · exact h.tgts j f hj

theorem DynFin.setBspecs (h : DynFin u cfg d) {i : Nat} {e : Int} {ms : List Modifier}
    (hms : ms ≠ [] → Named u cfg i e) : DynFin u cfg (L.setBspecs d i e ms) := by
  refine ⟨h.loaded, h.on, h.tgts, fun j f hj => ?_⟩
  change (if j = i ∧ f = e then ms else d.bspecs j f) ≠ [] at hj
  split at hj
  · rename_i hc; exact hc.1 ▸ hc.2 ▸ hms hj
  · exact h.bspecs j f hj

theorem dynFin_mstep {s : MState} (h : DynFin u s.cfg s.dyn) (st : MStep) (ok : StepFin u s.cfg s.dyn st) :
    DynFin u (mstep u s st).cfg (mstep u s st).dyn := by
  rw [L.mstep_dyn]
  cases st with
  | read S => exact h
  | changed i attr => exact h
  | reconfig cfg' => exact ok
  | load i => exact h.setLoaded fun _ => ok
  | unload i => exact h.setLoaded fun hv => nomatch hv
  | start i es => exact h.setOn fun _ => ok
  | stop i es => exact h.setOn fun hv => nomatch hv
  | apply i e ts =>
    refine h.setTgts fun hne => ?_
    by_cases hts : ts = []
    · exact h.tgts i e (by simpa [hts] using hne)
    · exact ok hts
  | unapply i e ts => exact h.setTgts fun hne => h.tgts i e fun h0 => hne (by rw [h0]; rfl)
  | buffset i e ms => exact h.setBspecs ok

theorem mdoT_toM {s : TState} (h : DynFin u s.cfg s.dyn) (st : MStep) (ok : StepFin u s.cfg s.dyn st) :
    (mdoT u s st).toM = mstep u s.toM st ∧ DynFin u (mdoT u s st).cfg (mdoT u s st).dyn := by
  have hm := mstepT_toM (u := u) s st
  have hf := dynFin_mstep (s := s.toM) h st ok
  rw [← hm] at hf
  have hc : compactDyn u (mstepT u s st).cfg (mstepT u s st).dyn = (mstepT u s st).dyn := compactDyn_eq_self hf
  have : mdoT u s st = mstepT u s st := by
    show TState.mk _ _ _ = _
    rw [hc]
  rw [this]
  exact ⟨hm, hf⟩

def RunFin (u : Universe) (s : MState) : List MStep → Prop
  | [] => True
  | st :: rest => StepFin u s.cfg s.dyn st ∧ RunFin u (mstep u s st) rest

theorem mdoT_run : ∀ (steps : List MStep) (s : TState), DynFin u s.cfg s.dyn → RunFin u s.toM steps →
    (steps.foldl (mdoT u) s).toM = steps.foldl (mstep u) s.toM ∧
    DynFin u (steps.foldl (mdoT u) s).cfg (steps.foldl (mdoT u) s).dyn
  | [], _, h, _ => ⟨rfl, h⟩
  | st :: rest, s, h, ok => by
    obtain ⟨h1, h2⟩ := mdoT_toM h st ok.1
    rw [List.foldl_cons, List.foldl_cons, ← h1]
    exact mdoT_run rest (mdoT u s st) h2 (h1 ▸ ok.2)

/-! ### The executable side-condition check `stepOKb` is `StepOK`

`stepOKb` ranges over the table's entries and over the named pairs (items of the configuration, effect ids their
types list), `L.StepOK` over all nodes, items and effect ids; on registers of the form `DynFin` — every state the
driver is in — that is the same. -/

theorem tblFun_ne_none_iff {T : Tbl} {n : Node} : tblFun T n ≠ none ↔ ∃ p ∈ T, p.1 = n := by
  simp only [tblFun, ne_eq, Option.map_eq_none_iff, ← Option.isSome_iff_ne_none, List.find?_isSome, beq_iff_eq]

theorem noneOnb_iff {s : TState} {i : Nat} :
    noneOnb u s i = true ↔ ∀ e, Named u s.cfg i e → s.dyn.on i e = false := by
  unfold noneOnb
  simp only [List.all_eq_true, Bool.or_eq_true, bne_iff_ne, Bool.not_eq_true']
  constructor
  · rintro h e ⟨x, hx, hxi, he⟩
    rcases h x hx with hne | hall
    · exact absurd hxi hne
    · exact hall e he
  · intro h x hx
    by_cases hxi : x.id = i
    · exact Or.inr fun e he => h e ⟨x, hx, hxi, he⟩
    · exact Or.inl hxi

theorem notTargetb_iff {s : TState} {i : Nat} :
    notTargetb u s i = true ↔ ∀ a e, Named u s.cfg a e → i ∉ s.dyn.tgts a e := by
  unfold notTargetb
  simp only [List.all_eq_true, Bool.not_eq_true', List.contains_eq_mem, decide_eq_false_iff_not]
  constructor
  · rintro h a e ⟨x, hx, rfl, he⟩; exact h x hx e he
  · intro h x hx e he; exact h x.id e ⟨x, hx, rfl, he⟩

theorem noneOn_of_dynFin {s : TState} (hfin : DynFin u s.cfg s.dyn) {i : Nat} (h : noneOnb u s i = true) :
    ∀ e, s.dyn.on i e = false := by
  intro e
  cases hon : s.dyn.on i e with
  | false => rfl
  | true => rw [noneOnb_iff.1 h e (hfin.on i e hon)] at hon; cases hon

theorem notTarget_of_dynFin {s : TState} (hfin : DynFin u s.cfg s.dyn) {i : Nat} (h : notTargetb u s i = true) :
    ∀ a e, i ∉ s.dyn.tgts a e :=
  fun a e hi => notTargetb_iff.1 h a e (hfin.tgts a e (List.ne_nil_of_mem hi)) hi

theorem stepOKb_iff_of_not_loading {s : TState} {st : MStep} {W : Config × Dyn → DepCache.Graph Node Rat}
    (hk : match st with | .load _ | .unload _ | .reconfig _ => False | _ => True) :
    stepOKb u s st = true ↔ L.StepOK W s.toM st := by
  cases st with
  | load i => exact hk.elim
  | unload i => exact hk.elim
  | reconfig c => exact hk.elim
  | apply i e ts =>
    simp only [stepOKb, L.StepOK, List.all_eq_true, TState.toM]
    refine forall₂_congr fun j _ => ?_
    cases item? s.cfg j <;> simp
  | _ => simp only [stepOKb, L.StepOK, List.all_eq_true, List.isEmpty_iff, TState.toM]

theorem stepOKb_sound {s : TState} (hfin : DynFin u s.cfg s.dyn) {st : MStep}
    (hst : ∀ cfg', st ≠ .reconfig cfg') (h : stepOKb u s st = true) (W : Config × Dyn → DepCache.Graph Node Rat) :
    L.StepOK W s.toM st := by
  cases st with
  | load i =>
    simp only [stepOKb, Bool.and_eq_true] at h
    refine ⟨fun n hn => ?_, noneOn_of_dynFin hfin h.1.2, notTarget_of_dynFin hfin h.2⟩
    obtain ⟨p, hp, rfl⟩ := tblFun_ne_none_iff.1 hn
    simpa using List.all_eq_true.1 h.1.1 p hp
  | unload i =>
    simp only [stepOKb, Bool.and_eq_true] at h
    exact ⟨noneOn_of_dynFin hfin h.1, notTarget_of_dynFin hfin h.2⟩
  | reconfig c => exact absurd rfl (hst c)
  | _ => exact (stepOKb_iff_of_not_loading trivial).1 h

theorem stepOKb_complete {s : TState} {st : MStep} {W : Config × Dyn → DepCache.Graph Node Rat}
    (ok : L.StepOK W s.toM st) : stepOKb u s st = true := by
  cases st with
  | load i =>
    simp only [stepOKb, Bool.and_eq_true]
    refine ⟨⟨List.all_eq_true.2 fun p hp => ?_, noneOnb_iff.2 fun e _ => ok.2.1 e⟩,
      notTargetb_iff.2 fun a e _ => ok.2.2 a e⟩
    simpa using ok.1 p.1 (tblFun_ne_none_iff.2 ⟨p, hp, rfl⟩)
  | unload i =>
    simp only [stepOKb, Bool.and_eq_true]
    exact ⟨noneOnb_iff.2 fun e _ => ok.1 e, notTargetb_iff.2 fun a e _ => ok.2 a e⟩
  | reconfig c => rfl
  | _ => exact (stepOKb_iff_of_not_loading trivial).2 ok

theorem stepOKb_iff {s : TState} (hfin : DynFin u s.cfg s.dyn) {st : MStep}
    (hst : ∀ cfg', st ≠ .reconfig cfg') (W : Config × Dyn → DepCache.Graph Node Rat) :
    stepOKb u s st = true ↔ L.StepOK W s.toM st :=
  ⟨fun h => stepOKb_sound hfin hst h W, stepOKb_complete⟩

theorem stepFinb_iff {s : TState} {st : MStep} (hst : ∀ cfg', st ≠ .reconfig cfg') :
    stepFinb u s st = true ↔ StepFin u s.cfg s.dyn st := by
  cases st <;>
    simp only [stepFinb, StepFin, List.any_eq_true, List.all_eq_true, beq_iff_eq, namedb_iff, Bool.or_eq_true,
      List.isEmpty_iff, ← Classical.or_iff_not_imp_left, ne_eq]
  exact absurd rfl (hst _)

theorem rcFinb_iff {s : TState} {cfg' : Config} :
    rcFinb u s cfg' = true ↔ ∀ x ∈ s.cfg.items,
      (s.dyn.loaded x.id = false ∨ ∃ y ∈ cfg'.items, y.id = x.id) ∧
      ∀ e ∈ effsOf u x, ((s.dyn.on x.id e = false ∧ s.dyn.tgts x.id e = []) ∧ s.dyn.bspecs x.id e = []) ∨
        Named u cfg' x.id e := by
  simp only [rcFinb, List.all_eq_true, Bool.and_eq_true, Bool.or_eq_true, Bool.not_eq_true', List.any_eq_true,
    beq_iff_eq, List.isEmpty_iff, namedb_iff]

theorem rcFinb_sound {s : TState} (hfin : DynFin u s.cfg s.dyn) {cfg' : Config} (h : rcFinb u s cfg' = true) :
    DynFin u cfg' s.dyn := by
  have h' := rcFinb_iff.1 h
  refine ⟨fun i hi => ?_, fun i e hi => ?_, fun i e hi => ?_, fun i e hi => ?_⟩
  · obtain ⟨x, hx, rfl⟩ := hfin.loaded i hi
    exact (h' x hx).1.resolve_left (by simp [hi])
  · obtain ⟨x, hx, rfl, he⟩ := hfin.on i e hi
    exact ((h' x hx).2 e he).resolve_left (by simp [hi])
  · obtain ⟨x, hx, rfl, he⟩ := hfin.tgts i e hi
    exact ((h' x hx).2 e he).resolve_left (by simp [hi])
  · obtain ⟨x, hx, rfl, he⟩ := hfin.bspecs i e hi
    exact ((h' x hx).2 e he).resolve_left (by simp [hi])

theorem rcFinb_complete {s : TState} {cfg' : Config} (h : DynFin u cfg' s.dyn) : rcFinb u s cfg' = true :=
  rcFinb_iff.2 fun x _ => ⟨by
    cases hl : s.dyn.loaded x.id
    · exact Or.inl rfl
    · exact Or.inr (h.loaded _ hl), fun e _ => by
    by_cases hn : Named u cfg' x.id e
    · exact Or.inr hn
    · refine Or.inl ⟨⟨?_, ?_⟩, ?_⟩
      · cases ho : s.dyn.on x.id e
        · rfl
        · exact absurd (h.on _ _ ho) hn
      · exact Classical.byContradiction fun ht => hn (h.tgts _ _ ht)
      · exact Classical.byContradiction fun hb => hn (h.bspecs _ _ hb)⟩

/-- Executable: the event names configured items and effects of their types (`stepFinb`; `rcFinb` for a new
configuration). -/
def wstepFinb (u : Universe) (s : MState) : WStep → Bool
  | .read _ => true
  | .micro (.reconfig cfg') | .relevel cfg' _ _ => rcFinb u ⟨s.cfg, s.dyn, []⟩ cfg'
  | .micro st => stepFinb u ⟨s.cfg, s.dyn, []⟩ st

def wrunFinb (u : Universe) (W : Config × Dyn → Graph Node Rat) (s : MState) : List WStep → Bool
  | [] => true
  | st :: l => wstepFinb u s st && wrunFinb u W (wstep u W s st) l

theorem dynFin_wstep (W : Config × Dyn → Graph Node Rat) {s : MState} (h : DynFin u s.cfg s.dyn) {st : WStep}
    (ok : wstepFinb u s st = true) : DynFin u (wstep u W s st).cfg (wstep u W s st).dyn := by
  cases st with
  | read S => exact h
  | relevel cfg' i attr => exact rcFinb_sound (s := ⟨s.cfg, s.dyn, []⟩) h ok
  | micro m =>
    cases m with
    | reconfig cfg' => exact rcFinb_sound (s := ⟨s.cfg, s.dyn, []⟩) h ok
    | _ => exact dynFin_mstep h _ ((stepFinb_iff (s := ⟨s.cfg, s.dyn, []⟩) (fun _ h => by cases h)).1 ok)

theorem dynFin_wrun (W : Config × Dyn → Graph Node Rat) : ∀ (l : List WStep) (s : MState), DynFin u s.cfg s.dyn →
    wrunFinb u W s l = true → DynFin u (wrun u W s l).cfg (wrun u W s l).dyn
  | [], _, h, _ => h
  | _ :: l, _, h, ok =>
    dynFin_wrun W l _ (dynFin_wstep W h (Bool.and_eq_true_iff.1 ok).1) (Bool.and_eq_true_iff.1 ok).2

end Eos.Micro
