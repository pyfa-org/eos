import EosModel.SourceMgr
/-! What each operation of the source manager leaves of the world; handlers and aliases along a history. -/
namespace Eos.SourceMgr

variable {γ : Type} (ev : String)

theorem lookup_filter (l : List (String × Nat)) (a a' : String) :
    (l.filter (·.1 != a)).lookup a' = if a' = a then none else l.lookup a' := by
  induction l with
  | nil => simp
  | cons p ps ih =>
    obtain ⟨k, c⟩ := p
    by_cases hk : k = a
    · subst hk
      rw [List.filter_cons_of_neg (by simp), ih, List.lookup_cons]
      split
      · rfl
      · next h => rw [beq_false_of_ne h]
    · rw [List.filter_cons_of_pos (by simpa using hk), List.lookup_cons, List.lookup_cons, ih]
      cases h : a' == k
      · rfl
      · exact (if_neg (by rw [beq_iff_eq.1 h]; exact hk)).symm

theorem mem_aliases_iff (w : World γ) (a : String) : a ∈ w.aliases ↔ w.lookup a ≠ none := by
  simp [World.aliases, World.lookup, List.lookup_eq_none_iff]

theorem lookup_fresh (w : World γ) (a : String) (h : a ∉ w.aliases) : w.lookup a = none := by
  have := mem_aliases_iff w a
  cases hl : w.lookup a <;> simp_all

theorem step_add_fresh {w : World γ} {a : String} {v : Option String} {o : γ} {c : Nat} {mk : Bool}
    (h : a ∉ w.aliases) :
    step ev w (.add a v o c mk) =
      ({ handlers := if needRebuild ev (w.handlers c).fp v then setHandler w.handlers c ⟨some (formatFp ev v), o⟩
                     else w.handlers,
         sources := w.sources ++ [(a, c)], default := if mk then some (a, c) else w.default },
       .added (needRebuild ev (w.handlers c).fp v)) := by
  simp [step, h]

theorem step_add_taken {w : World γ} {a : String} {v : Option String} {o : γ} {c : Nat} {mk : Bool}
    (h : a ∈ w.aliases) : step ev w (.add a v o c mk) = (w, .existingSourceError) := by
  simp [step, h]

theorem step_get_fst (w : World γ) (a : String) : (step ev w (.get a)).1 = w := by
  simp only [step]; split <;> rfl

/-- `remove` filters the registry whether or not the alias is there (an absent alias filters nothing). -/
theorem step_remove_fst (w : World γ) (a : String) :
    (step ev w (.remove a)).1 = { w with sources := w.sources.filter (·.1 != a) } := by
  simp only [step]; split
  · rfl
  · next hc =>
    have : w.sources.filter (·.1 != a) = w.sources := List.filter_eq_self.2 fun p hp =>
      bne_iff_ne.2 fun e => hc (List.contains_iff_mem.2 (e ▸ List.mem_map_of_mem hp))
    rw [this]

theorem step_keeps_other_handlers (w : World γ) (op : Op γ) (c : Nat) (h : op.usesHandler c = false) :
    (step ev w op).1.handlers c = w.handlers c := by
  cases op with
  | add a v o ch mk =>
    have hne : c ≠ ch := by intro e; subst e; simp [Op.usesHandler] at h
    by_cases ha : a ∈ w.aliases
    · rw [step_add_taken ev ha]
    · rw [step_add_fresh ev ha]
      cases needRebuild ev (w.handlers ch).fp v <;> simp [setHandler, hne]
  | get a => rw [step_get_fst]
  | remove a => rw [step_remove_fst]
  | list => rfl

theorem run_keeps_other_handlers (w : World γ) (ops : List (Op γ)) (c : Nat)
    (h : ∀ op ∈ ops, op.usesHandler c = false) : (run ev w ops).handlers c = w.handlers c :=
  List.foldlRecOn (motive := fun w' => w'.handlers c = w.handlers c) ops _ rfl fun w' hw op hop =>
    (step_keeps_other_handlers ev w' op c (h op hop)).trans hw

theorem step_aliases_nodup (w : World γ) (op : Op γ) (h : w.aliases.Nodup) : (step ev w op).1.aliases.Nodup := by
  cases op with
  | add a v o ch mk =>
    by_cases ha : a ∈ w.aliases
    · rw [step_add_taken ev ha]; exact h
    · rw [step_add_fresh ev ha]
      simp only [World.aliases, List.map_append, List.map_cons, List.map_nil] at *
      exact List.nodup_append.mpr ⟨h, by simp, by intro x hx y hy; simp at hy; subst hy; intro e; subst e; exact ha hx⟩
  | get a => rw [step_get_fst]; exact h
  | remove a => rw [step_remove_fst]; exact h.sublist (List.filter_sublist.map _)
  | list => exact h

end Eos.SourceMgr
