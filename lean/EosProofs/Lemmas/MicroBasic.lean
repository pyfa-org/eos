import EosModel.WorldMicro
import EosProofs.Lemmas.WorldWF
/-! `mem_X` is an iff, `X_mem` a consequence of membership. -/
namespace Eos.Micro
open Eos.World

variable {u : Universe} {cfg : Config} {d : Dyn}

theorem item?_id {i : Nat} {x : Item} (h : item? cfg i = some x) : x.id = i := by
  simpa using List.find?_some h

theorem item?_of_mem (hU : UniqueIds cfg) {x : Item} (hx : x ∈ cfg.items) : item? cfg x.id = some x := by
  cases h : item? cfg x.id with
  | none => simpa using List.find?_eq_none.1 h x hx
  | some y => rw [eq_of_nodup_map _ hU (item?_mem h) hx (item?_id h)]

theorem attrMeta?_id {a : Int} {am : AttrMeta} (h : attrMeta? u a = some am) : am.id = a := by
  simpa using List.find?_some h

theorem attrMeta?_mem {a : Int} {am : AttrMeta} (h : attrMeta? u a = some am) : am ∈ u.attrs :=
  List.mem_of_find?_eq_some h

theorem node_eq {n : Node} {x : Item} {am : AttrMeta} (hx : item? cfg n.1 = some x)
    (ham : attrMeta? u n.2 = some am) : n = (x.id, am.id) := by
  rw [item?_id hx, attrMeta?_id ham]

theorem typeEffects_mem {a : Item} {e : Effect} (h : e ∈ typeEffects u d a) :
    e ∈ u.effects ∧ effect? u e.id = some e := by
  unfold typeEffects at h
  split at h
  · cases h
  · obtain ⟨i, _, hi⟩ := List.mem_filterMap.1 h
    exact ⟨List.mem_of_find?_eq_some hi, effect?_id hi ▸ hi⟩

theorem mem_running {a : Item} {e : Effect} :
    e ∈ running u d a ↔ e ∈ typeEffects u d a ∧ d.on a.id e.id = true := List.mem_filter

theorem running_mem {a : Item} {e : Effect} (h : e ∈ running u d a) :
    e ∈ u.effects ∧ effect? u e.id = some e :=
  typeEffects_mem (mem_running.1 h).1

theorem mem_targetsOf {a : Item} {e : Effect} {t : Item} :
    t ∈ targetsOf cfg d a e ↔ ∃ j ∈ d.tgts a.id e.id, item? cfg j = some t := List.mem_filterMap

theorem mem_localSpecs {a : Item} {s : Spec} : s ∈ localSpecs u d a ↔
    ∃ e ∈ running u d a, ∃ m ∈ e.mods, m.domain ≠ 4 ∧ s = ⟨a, e, m, none⟩ := by
  simp only [localSpecs, List.mem_flatMap, List.mem_map, List.mem_filter, bne_iff_ne, ne_eq, and_assoc,
    eq_comm (a := s)]

theorem mem_projMods {a : Item} {e : Effect} {m : Modifier} : m ∈ projMods u d a e ↔
    (m ∈ e.mods ∧ m.domain = 4) ∨ (e.isBuff = true ∧ m ∈ d.bspecs a.id e.id ∧ bspecOK u m = true) := by
  unfold projMods
  cases hbf : e.isBuff <;> simp [List.mem_filter]

theorem projMods_domain {a : Item} {e : Effect} {m : Modifier} (h : m ∈ projMods u d a e) : m.domain = 4 := by
  rcases mem_projMods.1 h with ⟨_, h⟩ | ⟨_, _, h⟩
  · exact h
  · exact (bspecOK_iff.1 h).1

theorem mem_projSpecs {a : Item} {s : Spec} : s ∈ projSpecs u cfg d a ↔
    ∃ e ∈ running u d a, (e.category = 2 ∨ e.isBuff = true) ∧ ∃ t ∈ targetsOf cfg d a e,
      ∃ m ∈ projMods u d a e, s = ⟨a, e, m, some t⟩ := by
  simp only [projSpecs, List.mem_flatMap, List.mem_ite_nil_right, List.mem_map, Bool.or_eq_true, beq_iff_eq,
    eq_comm (a := s)]

theorem mem_affectees {s : Spec} {x : Item} :
    x ∈ affectees u cfg d s ↔ x ∈ cfg.items ∧ ∃ tx, typeOf? u d x = some tx ∧ selects cfg s x tx = true := by
  unfold affectees
  rw [List.mem_filter]
  cases typeOf? u d x <;> simp

theorem spec_wf {a : Item} {s : Spec} (h : s ∈ localSpecs u d a ++ projSpecs u cfg d a) :
    s.a = a ∧ s.e ∈ running u d a ∧ s.e ∈ u.effects ∧
      (s.m ∈ s.e.mods ∨ (s.e.isBuff = true ∧ s.m ∈ d.bspecs a.id s.e.id ∧ bspecOK u s.m = true)) := by
  rcases List.mem_append.1 h with h | h
  · obtain ⟨e, he, m, hm, _, rfl⟩ := mem_localSpecs.1 h
    exact ⟨rfl, he, (running_mem he).1, Or.inl hm⟩
  · obtain ⟨e, he, _, t, _, m, hm, rfl⟩ := mem_projSpecs.1 h
    exact ⟨rfl, he, (running_mem he).1, (mem_projMods.1 hm).imp (·.1) id⟩

theorem mem_allSpecs {s : Spec} :
    s ∈ allSpecs u cfg d ↔ s.a ∈ cfg.items ∧ s ∈ localSpecs u d s.a ++ projSpecs u cfg d s.a := by
  refine List.mem_flatMap.trans ⟨fun ⟨a, ha, hs⟩ => ?_, fun ⟨ha, hs⟩ => ⟨_, ha, hs⟩⟩
  rw [(spec_wf hs).1]; exact ⟨ha, hs⟩

theorem mem_specsOn {s : Spec} {x : Item} {tx : ItemType} {attr : Int} :
    s ∈ specsOn u cfg d x tx attr ↔
      (s.a ∈ cfg.items ∧ s ∈ localSpecs u d s.a ++ projSpecs u cfg d s.a) ∧
        s.m.tgtAttr = attr ∧ selects cfg s x tx = true := by
  rw [← mem_allSpecs]; simp [specsOn, List.mem_filter]

theorem specsOn_mem {x : Item} {tx : ItemType} {attr : Int} {s : Spec} (h : s ∈ specsOn u cfg d x tx attr) :
    s.a ∈ cfg.items ∧ s.e ∈ running u d s.a ∧
      (s.m ∈ s.e.mods ∨ (s.e.isBuff = true ∧ s.m ∈ d.bspecs s.a.id s.e.id ∧ bspecOK u s.m = true)) ∧
      s.m.tgtAttr = attr ∧ selects cfg s x tx = true := by
  obtain ⟨⟨ha, hs⟩, ht, hsel⟩ := mem_specsOn.1 h
  exact ⟨ha, (spec_wf hs).2.1, (spec_wf hs).2.2.2, ht, hsel⟩

theorem projMods_of_not_buff (a : Item) {e : Effect} (hbf : e.isBuff = false) :
    projMods u d a e = e.mods.filter (·.domain == 4) := by
  unfold projMods; simp [hbf]

theorem specsOn_mem_mods (hb : ∀ e ∈ u.effects, e.isBuff = false) {x : Item} {tx : ItemType} {attr : Int}
    {s : Spec} (h : s ∈ specsOn u cfg d x tx attr) : s.m ∈ s.e.mods := by
  obtain ⟨_, he, hm, _, _⟩ := specsOn_mem h
  rcases hm with hm | ⟨hbf, _, _⟩
  · exact hm
  · rw [hb _ (running_mem he).1] at hbf; cases hbf

theorem spec_reads {a : Item} {s : Spec} (h : s ∈ localSpecs u d a ++ projSpecs u cfg d a) :
    s.m.srcAttr ∈ gatherReads u s.m.tgtAttr ∧
      ∀ r, s.e.resistAttr = some r → r ≠ 0 → r ∈ gatherReads u s.m.tgtAttr := by
  obtain ⟨_, _, he, hm | ⟨hb, _, hok⟩⟩ := spec_wf h
  · exact reads_mod he hm
  · exact reads_bspec he hb hok

theorem mem_deps_iff {n m : Node} {x : Item} {am : AttrMeta} {tx : ItemType} (hx : item? cfg n.1 = some x)
    (ha : attrMeta? u n.2 = some am) (hs : (x.kind == .skill && am.id == 280) = false)
    (ht : typeOf? u d x = some tx) :
    m ∈ deps u cfg d n ↔
      (∃ s ∈ specsOn u cfg d x tx am.id,
        m = (s.a.id, s.m.srcAttr) ∨ ∃ c r, resistRead cfg s.e x = some (c, r) ∧ m = (c.id, r)) ∨
      am.maxAttr = some m.2 ∧ m.1 = x.id := by
  unfold deps
  simp only [hx, ha, hs, ht, Bool.false_eq_true, if_false, List.mem_append, List.mem_flatMap, List.mem_cons]
  refine or_congr (exists_congr fun s => and_congr_right fun _ => or_congr Iff.rfl ?_) ?_
  · rcases resistRead cfg s.e x with _ | ⟨c, r⟩
    · simp
    · simp only [List.mem_singleton, Option.some.injEq, Prod.mk.injEq, and_assoc, exists_and_left, exists_eq_left']
  · cases am.maxAttr <;> simp [Prod.ext_iff, eq_comm, and_comm]

/-- Only a node of a configured, loaded item and an attribute with metadata reads anything. -/
theorem deps_mem {n m : Node} (h : m ∈ deps u cfg d n) :
    ∃ x am tx, item? cfg n.1 = some x ∧ attrMeta? u n.2 = some am ∧ typeOf? u d x = some tx ∧
      ((∃ s ∈ specsOn u cfg d x tx am.id,
          m = (s.a.id, s.m.srcAttr) ∨ ∃ c r, resistRead cfg s.e x = some (c, r) ∧ m = (c.id, r)) ∨
       am.maxAttr = some m.2 ∧ m.1 = x.id) := by
  have h0 := h
  unfold deps at h0
  split at h0
  · rename_i x am hx ham
    split at h0
    · cases h0
    · rename_i hs
      split at h0
      · cases h0
      · rename_i tx ht
        exact ⟨x, am, tx, hx, ham, ht, (mem_deps_iff hx ham (Bool.eq_false_iff.2 hs) ht).1 h⟩
  · cases h0

theorem mem_rdeps {m x : Node} : x ∈ rdeps u cfg d m ↔
    ∃ y, item? cfg m.1 = some y ∧
      ((∃ am ∈ u.attrs, am.maxAttr = some m.2 ∧ x = (y.id, am.id)) ∨
       (∃ s ∈ localSpecs u d y ++ projSpecs u cfg d y, s.m.srcAttr = m.2 ∧
          ∃ x' ∈ affectees u cfg d s, x = (x'.id, s.m.tgtAttr)) ∨
       (∃ a ∈ cfg.items, ∃ s ∈ projSpecs u cfg d a, s.e.resistAttr = some m.2 ∧ m.2 ≠ 0 ∧
          (∃ t ∈ targetsOf cfg d a s.e,
            t.id = y.id ∨ (y.kind.ownerModifiable = true ∧ shipOf cfg y.fit = some t.id)) ∧
          ∃ x' ∈ affectees u cfg d s, x = (x'.id, s.m.tgtAttr))) := by
  unfold rdeps
  cases item? cfg m.1 with
  | none => simp only [List.not_mem_nil, reduceCtorEq, false_and, exists_false]
  | some y =>
    simp only [List.mem_append, List.mem_map, List.mem_flatMap, List.mem_filter, Option.some.injEq,
      exists_eq_left', Bool.and_eq_true, beq_iff_eq, bne_iff_ne, ne_eq, List.any_eq_true, Bool.or_eq_true,
      or_assoc, and_assoc, eq_comm (a := x)]

theorem rank_lt_of_readable (hwf : rankWF u = true) {a b : Int} {amb : AttrMeta} (hb : attrMeta? u b = some amb)
    (ha : (attrMeta? u a).isSome = true) (hr : a ∈ readable u amb) :
    (u.attrs.map (·.id)).idxOf a < (u.attrs.map (·.id)).idxOf b := by
  obtain ⟨_, pre, post, hsplit, hpre⟩ := List.find?_eq_some_iff_append.1 hb
  have hmem := (rankWF_iff u).1 hwf pre amb post hsplit a hr ha
  have hbnot : b ∉ pre.map (·.id) := by
    intro hc
    obtain ⟨q, hq, hqid⟩ := List.mem_map.1 hc
    exact bne_iff_ne.1 (hpre q hq) hqid
  rw [hsplit, List.map_append, List.map_cons, List.idxOf_append, List.idxOf_append, if_pos hmem, if_neg hbnot]
  exact Nat.lt_of_lt_of_le (List.idxOf_lt_length_iff.2 hmem) (Nat.le_add_left _ _)

theorem typeOf?_congr {d' : Dyn} {a : Item} (hl : d'.loaded a.id = d.loaded a.id) :
    typeOf? u d' a = typeOf? u d a := by
  unfold typeOf?; rw [hl]

theorem typeEffects_congr {d' : Dyn} {a : Item} (hl : d'.loaded a.id = d.loaded a.id) :
    typeEffects u d' a = typeEffects u d a := by
  unfold typeEffects; rw [typeOf?_congr hl]

theorem typeOf?_of_running {a : Item} {e : Effect} (h : e ∈ running u d a) : typeOf? u d a = type? u a.typeId := by
  have he := (mem_running.1 h).1
  unfold typeEffects typeOf? at he
  unfold typeOf?
  split
  · rfl
  · rw [if_neg ‹_›] at he; cases he

theorem resistRead_mem {e : Effect} {x c : Item} {r : Int} (hx : x ∈ cfg.items)
    (h : resistRead cfg e x = some (c, r)) : c ∈ cfg.items :=
  (carrierOf_mem (resistRead_some h).2.2).elim (· ▸ hx) id

theorem gatherD_congr {d' : Dyn} {immune : List Int} {rd rd' : Reader} {x : Item} {tx : ItemType} {attr : Int}
    (hsp : specsOn u cfg d' x tx attr = specsOn u cfg d x tx attr)
    (h : ∀ s ∈ specsOn u cfg d x tx attr,
      rd' s.a s.m.srcAttr = rd s.a s.m.srcAttr ∧ ∀ c r, resistRead cfg s.e x = some (c, r) → rd' c r = rd c r) :
    gatherD u cfg d' immune rd' x tx attr = gatherD u cfg d immune rd x tx attr := by
  unfold gatherD immuneOf
  rw [hsp]
  refine foldlM_congr_mem _ (fun acc s hs => ?_) _
  -- the carrier of a registered spec is loaded, under `d'` as under `d`
  rw [typeOf?_of_running (specsOn_mem (hsp.symm ▸ hs)).2.1, typeOf?_of_running (specsOn_mem hs).2.1, (h s hs).1,
    resistD_congr (h s hs).2]

/-- `valueOfD` sees the registers and the reader through the item's type, the gathering and the cap. -/
theorem valueOfD_congr {d' : Dyn} {immune limited : List Int} {pen : Nat → Rat} {rd rd' : Reader} {x : Item}
    {am : AttrMeta} (hty : typeOf? u d' x = typeOf? u d x)
    (h : (x.kind == .skill && am.id == 280) = false → ∀ tx, typeOf? u d x = some tx →
      gatherD u cfg d' immune rd' x tx am.id = gatherD u cfg d immune rd x tx am.id ∧
      ∀ mx, am.maxAttr = some mx → rd' x mx = rd x mx) :
    valueOfD u cfg d' immune limited pen rd' x am = valueOfD u cfg d immune limited pen rd x am := by
  unfold valueOfD
  rw [hty]
  refine ite_congr rfl (fun _ => rfl) fun hs => ?_
  cases ht : typeOf? u d x with
  | none => rfl
  | some tx =>
    obtain ⟨hg, hmx⟩ := h (Bool.eq_false_iff.2 hs) tx ht
    dsimp only
    rw [hg]
    cases hm : am.maxAttr with
    | none => rfl
    | some mx => dsimp only; rw [hmx mx hm]

/-- The reader is consulted at configured items only, and only at the nodes `deps` lists. -/
theorem valueOfD_congr_deps {immune limited : List Int} {pen : Nat → Rat} {rd rd' : Reader} {n : Node} {x : Item}
    {am : AttrMeta} (hx : item? cfg n.1 = some x) (ham : attrMeta? u n.2 = some am)
    (h : ∀ y ∈ cfg.items, ∀ a, (y.id, a) ∈ deps u cfg d n → rd' y a = rd y a) :
    valueOfD u cfg d immune limited pen rd' x am = valueOfD u cfg d immune limited pen rd x am :=
  valueOfD_congr rfl fun hs tx ht =>
    have hd := fun m => (@mem_deps_iff u cfg d n m x am tx hx ham hs ht).2
    ⟨gatherD_congr rfl fun s hsp => ⟨h s.a (specsOn_mem hsp).1 _ (hd _ (.inl ⟨s, hsp, .inl rfl⟩)),
        fun c r hr => h c (resistRead_mem (item?_mem hx) hr) r (hd _ (.inl ⟨s, hsp, .inr ⟨c, r, hr, rfl⟩⟩))⟩,
      fun mx hmx => h x (item?_mem hx) mx (hd _ (.inr ⟨hmx, rfl⟩))⟩

theorem evalD_node {immune limited : List Int} {pen : Nat → Rat} {n : Node} {x : Item} {am : AttrMeta}
    (hx : item? cfg n.1 = some x) (ham : attrMeta? u n.2 = some am) (f : Node → Option Rat) :
    evalD u cfg d immune limited pen n f =
      valToOption (valueOfD u cfg d immune limited pen (readerOf u f) x am) := by
  unfold evalD; rw [hx, ham]

theorem evalD_ne_none {immune limited : List Int} {pen : Nat → Rat} {n : Node} {f : Node → Option Rat}
    (h : evalD u cfg d immune limited pen n f ≠ none) :
    ∃ x am, item? cfg n.1 = some x ∧ attrMeta? u n.2 = some am := by
  unfold evalD at h
  cases hx : item? cfg n.1 with
  | none => rw [hx] at h; exact absurd rfl h
  | some x =>
    cases ham : attrMeta? u n.2 with
    | none => rw [hx, ham] at h; exact absurd rfl h
    | some am => exact ⟨x, am, rfl, rfl⟩

end Eos.Micro
