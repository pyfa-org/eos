import EosGen.AffectsTableL01
namespace Eos.C02
open Eos.AffectsSpec EosGen.AffectsTable

theorem affects_blockL01_ok : localBlockOk blockL01 blockL01Cases blockL01Modified blockL01Valid = true := by decide +kernel

end Eos.C02
