import EosGen.AffectsTableL05
namespace Eos.C02
open Eos.AffectsSpec EosGen.AffectsTable

theorem affects_blockL05_ok : localBlockOk blockL05 blockL05Cases blockL05Modified blockL05Valid = true := by decide +kernel

end Eos.C02
