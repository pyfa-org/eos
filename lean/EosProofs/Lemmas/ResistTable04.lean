import EosGen.ResistTable04
namespace Eos.C02
open Eos.AffectsSpec EosGen.ResistTable

theorem resist_block04_ok : resistBlockOk blockR04 blockR04Cases blockR04Modified blockR04Valid = true := by
  decide +kernel

end Eos.C02
