import EosModel.Restrictions
import EosProofs.Lemmas.Toggle
/-! C03: a message is about one item; at that item the register's event is the change of what it ought to hold. -/
namespace Eos.Restr
open Eos.Toggle

/-- The item a message is about. (`Driver/Restrictions.lean` has its own `Msg.item` for the same thing.) -/
def Msg.subject : Msg → Nat
  | .itemLoaded i _ _ | .itemUnloaded i | .statesOn i _ | .statesOff i _ | .effectsOn i _ | .effectsOff i _ => i

theorem apply_other (μ : Micro) (m : Msg) {j : Nat} (h : j ≠ m.subject) :
    (μ.apply m).data j = μ.data j ∧ (μ.apply m).states j = μ.states j ∧ (μ.apply m).running j = μ.running j := by
  cases m <;> simp_all [Micro.apply, upd, Msg.subject]

theorem event_other (r : RegSpec) (μ' : Micro) (m : Msg) (cur : Nat → Option Payload) {j : Nat} (h : j ≠ m.subject) :
    applyCur cur (r.event μ' m) j = cur j := by
  cases m <;> simp only [RegSpec.event] <;> split <;> (try split) <;> first | rfl | exact if_neg h

theorem derived_other (r : RegSpec) (μ : Micro) (m : Msg) {j : Nat} (h : j ≠ m.subject) :
    derived r (μ.apply m) j = derived r μ j := by
  obtain ⟨h1, h2, h3⟩ := apply_other μ m h
  cases ht : r.trigger <;> simp [derived, Trigger.flag, ht, h1, h2, h3]

theorem clean_step {μ : Micro} {m : Msg} (hc : μ.Clean) (hw : μ.wf m = true) : (μ.apply m).Clean := by
  intro j hj
  by_cases h : j = m.subject
  · -- only an unload makes the item itself unloaded, and that comes after its states and effects went off
    subst h
    cases m with
    | statesOn i _ | statesOff i _ | effectsOn i _ | effectsOff i _ =>
      simp [Micro.wf, show μ.data i = none from hj] at hw
    | _ => simp_all [Micro.apply, upd, Micro.wf, Msg.subject]
  · obtain ⟨h1, h2, h3⟩ := apply_other μ m h
    rw [h2, h3]; exact hc j (h1 ▸ hj)

attribute [local simp] derived RegSpec.event applyCur upd Micro.apply Trigger.flag Ev.wf Msg.subject in
/-- This is where the protocol of `MsgHelper` (`Micro.wf`, `Micro.Clean`) is used. -/
theorem derived_at_item (r : RegSpec) {μ : Micro} {m : Msg} (hc : μ.Clean) (hw : μ.wf m = true) :
    derived r (μ.apply m) m.subject = applyCur (derived r μ) (r.event (μ.apply m) m) m.subject ∧
    (r.event (μ.apply m) m).wf (derived r μ) := by
  obtain ⟨tr, pick⟩ := r
  cases m with
  | itemLoaded i c t =>
    -- not loaded before, hence (clean) no states and no effects
    have hd : μ.data i = none := by simpa [Micro.wf] using hw
    obtain ⟨hs, hr⟩ := hc i hd
    cases tr <;> simp [hd, hs, hr]
  | itemUnloaded i =>
    -- states and effects were switched off first
    simp only [Micro.wf, Bool.and_eq_true, List.isEmpty_iff] at hw
    cases tr <;> simp [hw.1.2, hw.2]
  | statesOn i ss =>
    -- only states that are not active yet
    simp only [Micro.wf, Bool.and_eq_true, List.all_eq_true, Bool.not_eq_true'] at hw
    cases tr with
    | state s =>
      by_cases hm : s ∈ ss
      · have hn : s ∉ μ.states i := by simpa using hw.2 s hm
        simp [hm, hn]
      · simp [hm]
    | _ => simp
  | statesOff i ss =>
    cases tr with
    | state s =>
      by_cases hm : s ∈ ss <;>
        simp [hm]
    | _ => simp
  | effectsOn i es =>
    -- only effects that are not running yet
    simp only [Micro.wf, Bool.and_eq_true, List.all_eq_true, Bool.not_eq_true'] at hw
    cases tr with
    | effect e =>
      by_cases hm : e ∈ es
      · have hn : e ∉ μ.running i := by simpa using hw.2 e hm
        simp [hm, hn]
      · simp [hm]
    | _ => simp
  | effectsOff i es =>
    cases tr with
    | effect e =>
      by_cases hm : e ∈ es <;>
        simp [hm]
    | _ => simp

theorem derived_step (r : RegSpec) {μ : Micro} {m : Msg} (hc : μ.Clean) (hw : μ.wf m = true) :
    derived r (μ.apply m) = applyCur (derived r μ) (r.event (μ.apply m) m) ∧
    (r.event (μ.apply m) m).wf (derived r μ) := by
  obtain ⟨h1, h2⟩ := derived_at_item r hc hw
  refine ⟨funext fun j => ?_, h2⟩
  by_cases h : j = m.subject
  · rw [h, h1]
  · rw [derived_other r μ m h, event_other r _ m _ h]

def RegsInv (μ : Micro) (regs : Regs) : Prop := ∀ t, Inv (derived (regSpec t) μ) (regs t)

theorem regsInv_step {μ : Micro} {regs : Regs} {m : Msg} (hc : μ.Clean) (hi : RegsInv μ regs)
    (hw : μ.wf m = true) : RegsInv (μ.apply m) (regs.step (μ.apply m) m) := by
  intro t
  obtain ⟨he, hwf⟩ := derived_step (regSpec t) hc hw
  rw [he]
  exact step_inv _ (hi t) hwf

theorem regsInv_empty : RegsInv {} Regs.empty := by
  intro t
  have : derived (regSpec t) {} = fun _ => none := by
    funext i; simp [derived]
  rw [this]; exact inv_nil

theorem clean_empty : ({} : Micro).Clean := by intro i _; exact ⟨rfl, rfl⟩

end Eos.Restr
