import EosGen.ResistTable06
namespace Eos.C02
open Eos.AffectsSpec EosGen.ResistTable

theorem resist_block06_ok : resistBlockOk blockR06 blockR06Cases blockR06Modified blockR06Valid = true := by
  decide +kernel

end Eos.C02
