import EosModel.Containers
/-! Facts about the Python list primitives of the container model (`allocate`, `cleanup`, `pyIndex`,
`pyInsert`, `indexOf?`) and about racks seen as partial maps position → item (`slotAt`); what it means that an
item sequence is another with one item put in (`IsInsertion`); the association lists behind `dict`s
(`lookupKey`, `delKey`). -/
namespace Eos.Containers

def NoTrail (l : List (Option Nat)) : Prop := l.getLast? ≠ some none

def slotAt (l : List (Option Nat)) (j : Nat) : Option Nat := (l[j]?).join

def IsInsertion (i : Nat) (A B : List Nat) : Prop := ∃ a b, A = a ++ b ∧ B = a ++ i :: b

@[simp] theorem items_nil : items [] = [] := rfl
@[simp] theorem items_cons_none (l : List (Option Nat)) : items (none :: l) = items l := rfl
@[simp] theorem items_cons_some (i : Nat) (l : List (Option Nat)) : items (some i :: l) = i :: items l := rfl
@[simp] theorem items_append (a b : List (Option Nat)) : items (a ++ b) = items a ++ items b := by
  simp [items, List.filterMap_append]
@[simp] theorem items_replicate_none (n : Nat) : items (List.replicate n none) = [] :=
  List.filterMap_replicate_of_none rfl

theorem mem_items {l : List (Option Nat)} {x : Nat} : x ∈ items l ↔ some x ∈ l := by
  simp [items, List.mem_filterMap]

@[simp] theorem items_allocate (l : List (Option Nat)) (n : Int) : items (allocate l n) = items l := by
  simp [allocate]

@[simp] theorem cleanup_nil : cleanup [] = [] := rfl

theorem cleanup_cons (x : Option Nat) (xs : List (Option Nat)) :
    cleanup (x :: xs) = if x = none ∧ cleanup xs = [] then [] else x :: cleanup xs := by
  cases x <;> cases h : cleanup xs <;> simp [cleanup, h]

theorem cleanup_eq_nil_iff {l : List (Option Nat)} : cleanup l = [] ↔ ∀ x ∈ l, x = none := by
  induction l with
  | nil => simp
  | cons x xs ih =>
    rw [cleanup_cons, List.forall_mem_cons, ← ih]
    split
    · next h => exact ⟨fun _ => h, fun _ => rfl⟩
    · next h => exact ⟨fun e => (nomatch e), fun e => absurd e h⟩

theorem cleanup_replicate_none (n : Nat) : cleanup (List.replicate n none) = [] :=
  cleanup_eq_nil_iff.2 fun _ h => (List.mem_replicate.1 h).2

theorem cleanup_append_nones (l : List (Option Nat)) (n : Nat) :
    cleanup (l ++ List.replicate n none) = cleanup l := by
  induction l with
  | nil => simp [cleanup_replicate_none]
  | cons x xs ih => simp [cleanup_cons, ih]

theorem noTrail_nil : NoTrail [] := by simp [NoTrail]

theorem noTrail_cons {x : Option Nat} {xs : List (Option Nat)} :
    NoTrail (x :: xs) ↔ (xs = [] → x ≠ none) ∧ (xs ≠ [] → NoTrail xs) := by
  cases xs with
  | nil => simp [NoTrail]
  | cons y ys => simp [NoTrail, List.getLast?_cons_cons]

theorem cleanup_of_noTrail {l : List (Option Nat)} (h : NoTrail l) : cleanup l = l := by
  induction l with
  | nil => rfl
  | cons x xs ih =>
    rw [noTrail_cons] at h
    by_cases hxs : xs = []
    · subst hxs; have := h.1 rfl; simp [cleanup_cons, this]
    · have h2 := ih (h.2 hxs)
      rw [cleanup_cons, h2]; simp [hxs]

theorem noTrail_cleanup (l : List (Option Nat)) : NoTrail (cleanup l) := by
  induction l with
  | nil => exact noTrail_nil
  | cons x xs ih =>
    rw [cleanup_cons]
    split
    · exact noTrail_nil
    · rename_i h
      rw [noTrail_cons]
      refine ⟨fun hn hx => h ⟨hx, hn⟩, fun _ => ih⟩

theorem cleanup_spec (l : List (Option Nat)) : ∃ n, l = cleanup l ++ List.replicate n none := by
  induction l with
  | nil => exact ⟨0, rfl⟩
  | cons x xs ih =>
    obtain ⟨n, hn⟩ := ih
    rw [cleanup_cons]
    split
    · rename_i h
      refine ⟨n + 1, ?_⟩
      rw [h.2] at hn
      simp [h.1, hn, List.replicate_succ]
    · exact ⟨n, by simp [← hn]⟩

@[simp] theorem items_cleanup (l : List (Option Nat)) : items (cleanup l) = items l := by
  obtain ⟨n, hn⟩ := cleanup_spec l
  conv => rhs; rw [hn]
  simp

theorem cleanup_allocate {l : List (Option Nat)} (h : NoTrail l) (n : Int) : cleanup (allocate l n) = l := by
  rw [allocate, cleanup_append_nones, cleanup_of_noTrail h]

theorem noTrail_append_some (l : List (Option Nat)) (i : Nat) : NoTrail (l ++ [some i]) := by
  simp [NoTrail]

theorem slotAt_append_nones (l : List (Option Nat)) (n : Nat) : slotAt (l ++ List.replicate n none) = slotAt l := by
  funext j
  simp only [slotAt, List.getElem?_append]
  split
  · rfl
  · next h =>
    rw [List.getElem?_eq_none (Nat.le_of_not_lt h), List.getElem?_replicate]
    split <;> rfl

@[simp] theorem slotAt_cleanup (l : List (Option Nat)) : slotAt (cleanup l) = slotAt l := by
  obtain ⟨n, hn⟩ := cleanup_spec l
  conv => rhs; rw [hn]
  rw [slotAt_append_nones]

@[simp] theorem slotAt_allocate (l : List (Option Nat)) (n : Int) : slotAt (allocate l n) = slotAt l :=
  slotAt_append_nones l _

theorem slotAt_of_length_le {l : List (Option Nat)} {j : Nat} (h : l.length ≤ j) : slotAt l j = none := by
  simp [slotAt, List.getElem?_eq_none h]

theorem pyIndex_of_nonneg (n : Nat) {i : Int} (h : 0 ≤ i) :
    pyIndex n i = if i.toNat < n then some i.toNat else none := if_pos h

theorem pyIndex_lt {n : Nat} {i : Int} {k : Nat} (h : pyIndex n i = some k) : k < n := by
  unfold pyIndex at h
  split at h <;> split at h <;> cases h
  · assumption
  · omega

theorem pyIndex_nonneg {n : Nat} {i : Int} {k : Nat} (h : pyIndex n i = some k) (hi : 0 ≤ i) : k = i.toNat := by
  rw [pyIndex_of_nonneg n hi] at h
  split at h <;> cases h; rfl

theorem pyIndex_neg {n : Nat} {i : Int} {k : Nat} (h : pyIndex n i = some k) (hi : i < 0) : (k : Int) = n + i := by
  rw [pyIndex, if_neg (Int.not_le.2 hi)] at h
  split at h <;> cases h; omega

theorem indexOf?_eq_findIdx? (v : Option Nat) (l : List (Option Nat)) : indexOf? v l = l.findIdx? (· == v) := by
  induction l with
  | nil => rfl
  | cons x xs ih => simp [indexOf?, List.findIdx?_cons, ih]

theorem indexOf?_some {v : Option Nat} {l : List (Option Nat)} {k : Nat} (h : indexOf? v l = some k) :
    l[k]? = some v ∧ ∀ j < k, l[j]? ≠ some v := by
  rw [indexOf?_eq_findIdx?, List.findIdx?_eq_some_iff_getElem] at h
  obtain ⟨hk, hv, hmin⟩ := h
  refine ⟨by simpa [List.getElem?_eq_getElem hk] using hv, fun j hj => ?_⟩
  simpa [List.getElem?_eq_getElem (Nat.lt_trans hj hk)] using hmin j hj

theorem indexOf?_none {v : Option Nat} {l : List (Option Nat)} (h : indexOf? v l = none) : v ∉ l := by
  rw [indexOf?_eq_findIdx?, List.findIdx?_eq_none_iff] at h
  exact fun hm => by simpa using h v hm

theorem lt_length_of_getElem? {l : List (Option Nat)} {k : Nat} {v : Option Nat} (h : l[k]? = some v) : k < l.length :=
  (List.getElem?_eq_some_iff.1 h).1

theorem set_set_none_of_hole {l : List (Option Nat)} {k : Nat} (h : l[k]? = some none) (i : Nat) :
    (l.set k (some i)).set k none = l := by
  obtain ⟨hk, hv⟩ := List.getElem?_eq_some_iff.1 h
  rw [List.set_set, ← hv, List.set_getElem_self]

theorem items_eq_split {l : List (Option Nat)} {k : Nat} {v : Option Nat} (h : l[k]? = some v) :
    items l = items (l.take k) ++ (v.toList ++ items (l.drop (k + 1))) := by
  obtain ⟨hk, rfl⟩ := List.getElem?_eq_some_iff.1 h
  conv => lhs; rw [← List.take_append_drop k l, List.drop_eq_getElem_cons hk]
  cases l[k] <;> simp

theorem items_set {l : List (Option Nat)} {k : Nat} {v : Option Nat} (h : l[k]? = some v) (w : Option Nat) :
    items (l.set k w) = items (l.take k) ++ (w.toList ++ items (l.drop (k + 1))) := by
  rw [List.set_eq_take_append_cons_drop, if_pos (lt_length_of_getElem? h)]; cases w <;> simp

theorem items_eraseIdx (l : List (Option Nat)) (k : Nat) :
    items (l.eraseIdx k) = items (l.take k) ++ items (l.drop (k + 1)) := by
  rw [List.eraseIdx_eq_take_drop_succ]; simp

theorem items_set_hole {l : List (Option Nat)} {k : Nat} (h : l[k]? = some none) (i : Nat) :
    IsInsertion i (items l) (items (l.set k (some i))) :=
  ⟨_, _, items_eq_split h, items_set h _⟩

theorem items_set_none {l : List (Option Nat)} {k i : Nat} (h : l[k]? = some (some i)) :
    IsInsertion i (items (l.set k none)) (items l) :=
  ⟨_, _, items_set h _, items_eq_split h⟩

theorem items_eraseIdx_some {l : List (Option Nat)} {k i : Nat} (h : l[k]? = some (some i)) :
    IsInsertion i (items (l.eraseIdx k)) (items l) :=
  ⟨_, _, items_eraseIdx l k, items_eq_split h⟩

theorem items_eraseIdx_none {l : List (Option Nat)} {k : Nat} (h : l[k]? = some none) :
    items (l.eraseIdx k) = items l :=
  (items_eraseIdx l k).trans (items_eq_split h).symm

theorem pyInsert_eq_insertIdx {l : List (Option Nat)} {k : Nat} (h : k ≤ l.length) (v : Option Nat) :
    pyInsert l k v = l.insertIdx k v := by
  induction l generalizing k with
  | nil => cases k <;> simp_all [pyInsert]
  | cons x xs ih =>
    cases k with
    | zero => rfl
    | succ k => simpa [pyInsert] using ih (by simpa using h)

theorem pyInsert_eraseIdx {l : List (Option Nat)} {k : Nat} (h : k ≤ l.length) (v : Option Nat) :
    (pyInsert l k v).eraseIdx k = l := by
  rw [pyInsert_eq_insertIdx h, List.eraseIdx_insertIdx_self]

theorem items_take_drop (l : List (Option Nat)) (k : Nat) : items (l.take k) ++ items (l.drop k) = items l := by
  rw [← items_append, List.take_append_drop]

@[simp] theorem items_pyInsert_none (l : List (Option Nat)) (k : Nat) : items (pyInsert l k none) = items l := by
  simp [pyInsert, items_take_drop]

theorem items_pyInsert_some (l : List (Option Nat)) (k i : Nat) :
    IsInsertion i (items l) (items (pyInsert l k (some i))) := by
  exact ⟨items (l.take k), items (l.drop k), (items_take_drop l k).symm, by simp [pyInsert]⟩

theorem pyInsert_length (l : List (Option Nat)) (v : Option Nat) : pyInsert l l.length v = l ++ [v] := by
  simp [pyInsert]

theorem noTrail_pyInsert_some {l : List (Option Nat)} (h : NoTrail l) (k i : Nat) : NoTrail (pyInsert l k (some i)) := by
  -- the last slot of `take k ++ some i :: drop k` is `some i` when `drop k` is empty, else the last slot of `l`
  unfold NoTrail pyInsert at *
  rw [List.getLast?_append, List.getLast?_cons]
  cases hd : (l.drop k).getLast? with
  | none => simp
  | some x =>
    have : l.getLast? = some x := by
      rw [List.getLast?_drop] at hd
      split at hd
      · cases hd
      · exact hd
    simp only [Option.getD_some, Option.some_or]
    rw [this] at h
    simpa using h

theorem slotAt_pyInsert {l : List (Option Nat)} {k : Nat} (h : k ≤ l.length) (v : Option Nat) (j : Nat) :
    slotAt (pyInsert l k v) j = if j < k then slotAt l j else if j = k then v else slotAt l (j - 1) := by
  simp +contextual only [slotAt, pyInsert_eq_insertIdx h, List.getElem?_insertIdx, apply_ite Option.join, h, if_true,
    Option.join_some]

theorem slotAt_set {l : List (Option Nat)} {k : Nat} (hk : k < l.length) (v : Option Nat) (j : Nat) :
    slotAt (l.set k v) j = if j = k then v else slotAt l j := by
  simp only [slotAt, List.getElem?_set]
  by_cases hj : j = k
  · subst hj; simp [hk]
  · simp [hj, Ne.symm hj]

/-! Racks padded with holes (`List.rightpad`): what `_allocate` does; and a value stored at the last position
padded for, which is what `place`, `equip` and `append` build. -/

theorem rightpad_of_le {l : List (Option Nat)} {n : Nat} (h : n ≤ l.length) : l.rightpad n none = l := by
  rw [List.rightpad, Nat.sub_eq_zero_of_le h, List.replicate_zero, List.append_nil]

theorem slotAt_rightpad (l : List (Option Nat)) (n : Nat) : slotAt (l.rightpad n none) = slotAt l :=
  slotAt_append_nones l _

theorem allocate_eq_rightpad (l : List (Option Nat)) (n : Int) : allocate l n = l.rightpad (n + 1).toNat none := by
  rw [allocate, List.rightpad, show n - (l.length : Int) + 1 = n + 1 - l.length by omega, Int.toNat_sub']

theorem allocate_of_lt {l : List (Option Nat)} {n : Int} (h : n < l.length) : allocate l n = l := by
  rw [allocate_eq_rightpad, rightpad_of_le (by omega)]

/-- `_allocate(index)` brings a non-negative index into range. -/
theorem pyIndex_allocate (l : List (Option Nat)) {index : Int} (h : 0 ≤ index) :
    pyIndex (allocate l index).length index = some index.toNat := by
  rw [pyIndex_of_nonneg _ h, if_pos]
  rw [allocate_eq_rightpad, List.length_rightpad]; omega

theorem getElem?_rightpad_hole {l : List (Option Nat)} {k : Nat} (h : slotAt l k = none) :
    (l.rightpad (k + 1) none)[k]? = some none := by
  rw [← slotAt_rightpad l (k + 1)] at h
  refine (Option.join_eq_none_iff.1 h).resolve_left fun e => ?_
  rw [List.getElem?_eq_none_iff, List.length_rightpad] at e; omega

theorem slotAt_set_rightpad (l : List (Option Nat)) (k : Nat) (v : Option Nat) (j : Nat) :
    slotAt ((l.rightpad (k + 1) none).set k v) j = if j = k then v else slotAt l j := by
  rw [slotAt_set (by rw [List.length_rightpad]; omega), slotAt_rightpad]

theorem items_set_rightpad {l : List (Option Nat)} {k : Nat} (h : slotAt l k = none) (i : Nat) :
    IsInsertion i (items l) (items ((l.rightpad (k + 1) none).set k (some i))) := by
  simpa [List.rightpad] using items_set_hole (getElem?_rightpad_hole h) i

theorem noTrail_set_rightpad {l : List (Option Nat)} (h : NoTrail l) (k i : Nat) :
    NoTrail ((l.rightpad (k + 1) none).set k (some i)) := by
  unfold NoTrail at *
  rw [List.getLast?_eq_getElem?, List.length_set, List.getElem?_set]
  split
  · split <;> simp
  · next hk =>
    -- `k` is not the last position, so nothing was appended
    rw [List.length_rightpad, Nat.max_def] at hk
    split at hk
    · rwa [rightpad_of_le ‹_›, ← List.getLast?_eq_getElem?]
    · exact absurd rfl hk

theorem slotAt_eraseIdx (l : List (Option Nat)) (k j : Nat) :
    slotAt (l.eraseIdx k) j = if j < k then slotAt l j else slotAt l (j + 1) := by
  simp only [slotAt, List.getElem?_eraseIdx]
  split <;> rfl

theorem slotAt_eq_none_of_getElem? {l : List (Option Nat)} {k : Nat} (h : l[k]? = some none) : slotAt l k = none := by
  simp [slotAt, h]

theorem slotAt_ne_none_of_not_hole {l : List (Option Nat)} {j : Nat} (hj : j < l.length) (h : l[j]? ≠ some none) :
    slotAt l j ≠ none := fun e =>
  (Option.join_eq_none_iff.1 e).elim (fun e0 => Nat.not_le.2 hj (List.getElem?_eq_none_iff.1 e0)) h

theorem noTrail_last_occupied {l : List (Option Nat)} (h : NoTrail l) (hl : l ≠ []) :
    slotAt l (l.length - 1) ≠ none :=
  slotAt_ne_none_of_not_hole (Nat.sub_one_lt (mt List.length_eq_zero_iff.1 hl)) (List.getLast?_eq_getElem? ▸ h)

theorem IsInsertion.perm {i : Nat} {A B : List Nat} (h : IsInsertion i A B) : B.Perm (i :: A) := by
  obtain ⟨a, b, rfl, rfl⟩ := h
  exact List.perm_middle

theorem IsInsertion.mem {i : Nat} {A B : List Nat} (h : IsInsertion i A B) (x : Nat) : x ∈ B ↔ x = i ∨ x ∈ A := by
  rw [h.perm.mem_iff, List.mem_cons]

theorem IsInsertion.nodup_iff {i : Nat} {A B : List Nat} (h : IsInsertion i A B) : B.Nodup ↔ i ∉ A ∧ A.Nodup := by
  rw [h.perm.nodup_iff, List.nodup_cons]

theorem IsInsertion.sublist {i : Nat} {A B : List Nat} (h : IsInsertion i A B) : A.Sublist B := by
  obtain ⟨a, b, rfl, rfl⟩ := h
  exact List.Sublist.append (List.Sublist.refl a) (List.sublist_cons_self i b)

theorem IsInsertion.erase {i : Nat} {A B : List Nat} (h : IsInsertion i A B) (hi : i ∉ A) : B.erase i = A := by
  obtain ⟨a, b, rfl, rfl⟩ := h
  simp only [List.mem_append, not_or] at hi
  rw [List.erase_append_right _ hi.1, List.erase_cons_head]

theorem IsInsertion.cons (i : Nat) (A : List Nat) : IsInsertion i A (i :: A) := ⟨[], A, rfl, rfl⟩

theorem IsInsertion.length {i : Nat} {A B : List Nat} (h : IsInsertion i A B) : B.length = A.length + 1 := by
  rw [h.perm.length_eq, List.length_cons]

theorem IsInsertion.of_mem_erase {i : Nat} {l : List Nat} (h : i ∈ l) : IsInsertion i (l.erase i) l := by
  obtain ⟨a, b, _, h1, h2⟩ := List.exists_erase_eq h
  exact ⟨a, b, h2, h1⟩

theorem lookupKey_cons (k key i : Nat) (l : List (Nat × Nat)) :
    lookupKey k ((key, i) :: l) = if key = k then some i else lookupKey k l := rfl

theorem lookupKey_eq_none_iff {k : Nat} {l : List (Nat × Nat)} : lookupKey k l = none ↔ k ∉ l.map Prod.fst := by
  induction l with
  | nil => simp [lookupKey]
  | cons e es ih =>
    obtain ⟨k', v'⟩ := e
    rw [lookupKey, List.map_cons, List.mem_cons, not_or, ← ih]
    split
    · next hk => exact ⟨fun e => (nomatch e), fun e => absurd hk.symm e.1⟩
    · next hk => exact ⟨fun e => ⟨fun h => hk h.symm, e⟩, fun e => e.2⟩

theorem lookupKey_some_mem {k i : Nat} {l : List (Nat × Nat)} (h : lookupKey k l = some i) : (k, i) ∈ l := by
  induction l with
  | nil => simp [lookupKey] at h
  | cons e es ih =>
    obtain ⟨k', v'⟩ := e
    unfold lookupKey at h
    split at h
    · rename_i hk; simp at h; simp [hk, h]
    · exact List.mem_cons_of_mem _ (ih h)

theorem mem_lookupKey {k i : Nat} {l : List (Nat × Nat)} (hnd : (l.map Prod.fst).Nodup) (h : (k, i) ∈ l) :
    lookupKey k l = some i := by
  induction l with
  | nil => simp at h
  | cons e es ih =>
    obtain ⟨k', v'⟩ := e
    simp only [List.map_cons, List.nodup_cons] at hnd
    unfold lookupKey
    rcases List.mem_cons.1 h with h | h
    · cases h; simp
    · have : k' ≠ k := fun e => hnd.1 (by rw [e]; exact List.mem_map_of_mem (f := Prod.fst) h)
      simp [this, ih hnd.2 h]

theorem delKey_cons (key k v : Nat) (l : List (Nat × Nat)) :
    delKey key ((k, v) :: l) = if k = key then delKey key l else (k, v) :: delKey key l := by
  by_cases h : k = key <;> simp [delKey, h]

theorem delKey_sublist (key : Nat) (l : List (Nat × Nat)) : (delKey key l).Sublist l := List.filter_sublist

theorem lookupKey_none_delKey {key : Nat} {l : List (Nat × Nat)} (h : lookupKey key l = none) : delKey key l = l :=
  List.filter_eq_self.2 fun e he => by
    have : e.1 ≠ key := fun hk => lookupKey_eq_none_iff.1 h (hk ▸ List.mem_map_of_mem (f := Prod.fst) he)
    simpa using this

theorem delKey_cons_self {key i : Nat} {l : List (Nat × Nat)} (h : lookupKey key l = none) :
    delKey key ((key, i) :: l) = l := by
  rw [delKey_cons, if_pos rfl, lookupKey_none_delKey h]

theorem map_snd_delKey {key i : Nat} {l : List (Nat × Nat)} (hk : (l.map Prod.fst).Nodup)
    (hl : lookupKey key l = some i) (hv : (l.map Prod.snd).Nodup) :
    (delKey key l).map Prod.snd = (l.map Prod.snd).erase i := by
  induction l with
  | nil => simp [lookupKey] at hl
  | cons e es ih =>
    obtain ⟨k', v'⟩ := e
    simp only [List.map_cons, List.nodup_cons] at hk hv
    unfold lookupKey at hl
    by_cases hkk : k' = key
    · simp only [hkk, if_true, Option.some.injEq] at hl
      subst hl
      have hnone : lookupKey key es = none := lookupKey_eq_none_iff.2 (hkk ▸ hk.1)
      simp [delKey_cons_self, hkk, hnone]
    · simp only [hkk, if_false] at hl
      have hne : v' ≠ i := fun e => hv.1 (by rw [e]; exact List.mem_map_of_mem (f := Prod.snd) (lookupKey_some_mem hl))
      rw [delKey_cons, if_neg hkk, List.map_cons, List.map_cons, ih hk.2 hl hv.2, List.erase_cons_tail (by simpa using hne)]

theorem lookupKey_delKey (k key : Nat) (l : List (Nat × Nat)) :
    lookupKey k (delKey key l) = if k = key then none else lookupKey k l := by
  induction l with
  | nil => simp [delKey, lookupKey]
  | cons e es ih =>
    obtain ⟨k', v'⟩ := e
    by_cases hk : k' = key
    · rw [delKey_cons, if_pos hk, ih, lookupKey_cons]
      by_cases hkk : k = key
      · simp [hkk]
      · have : k' ≠ k := fun e => hkk (by rw [← e, hk])
        simp [hkk, this]
    · rw [delKey_cons, if_neg hk, lookupKey_cons, lookupKey_cons, ih]
      by_cases hkk : k' = k
      · have : k ≠ key := fun e => hk (by rw [hkk, e])
        simp [hkk, this]
      · simp [hkk]

end Eos.Containers
