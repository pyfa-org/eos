import EosGen.FleetTable3
namespace Eos.C13
open Eos.AffectsSpec EosGen.FleetTable

theorem fleet_block3_ok : fleetBlockOk blockF3 blockF3Cases blockF3Boosted = true := by decide +kernel

end Eos.C13
