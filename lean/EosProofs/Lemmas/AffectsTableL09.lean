import EosGen.AffectsTableL09
namespace Eos.C02
open Eos.AffectsSpec EosGen.AffectsTable

theorem affects_blockL09_ok : localBlockOk blockL09 blockL09Cases blockL09Modified blockL09Valid = true := by decide +kernel

end Eos.C02
