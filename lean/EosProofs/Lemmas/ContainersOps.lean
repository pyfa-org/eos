import EosProofs.Lemmas.ContainersWorld
/-! Outcome of the container methods that can be refused, as a `Spec`: the call is refused with the state
rolled back to what it was, or accepted into a state given in closed form (`…Ok`); for the rack methods also what
they do to the abstract rack `slotAt`.  The `clear` methods never refuse and have no `Spec`; `tuRemove` and `tuDel`
can refuse half-way unless `fit.skills` files items under their type ids, and get theirs next to that invariant
(`TuInv`, in `ContainersReach`). -/
namespace Eos.Containers

inductive Spec (s : World) (Q : World → Prop) : Res → Prop
  | error (e : Err) : Spec s Q (.error e, s)
  | ok {s' : World} (h : Q s') : Spec s Q (.ok, s')

section
variable {s s' : World} {Q Q' : World → Prop} {res : Res}

theorem Spec.error_same (h : Spec s Q res) {e : Err} (he : res = (.error e, s')) : s' = s := by
  cases h <;> cases he; rfl

theorem Spec.of_ok (h : Spec s Q res) (he : res = (.ok, s')) : Q s' := by
  cases h <;> cases he; assumption

theorem Spec.snd (h : Spec s Q res) (h0 : Q s) : Q res.2 := by
  cases h with
  | error => exact h0
  | ok h => exact h

theorem Spec.mono (h : Spec s Q res) (hq : ∀ s', Q s' → Q' s') : Spec s Q' res := by
  cases h with
  | error e => exact .error e
  | ok h => exact .ok (hq _ h)

/-- Refused after an optimistic write that the roll-back has undone. -/
theorem Spec.rollback (e : Err) (h : s' = s) : Spec s Q (.error e, s') := h ▸ .error e
end

/-- Position `list.insert` is finally called with inside `ItemList.insert`. -/
def insPos (l : List (Option Nat)) (index : Int) : Nat :=
  if index < 0 then ((allocate l (index - 1)).length + index).toNat else index.toNat

theorem insPos_le (l : List (Option Nat)) (index : Int) : insPos l index ≤ (allocate l (index - 1)).length := by
  unfold insPos; split
  · omega
  · rw [allocate_eq_rightpad, List.length_rightpad, Int.sub_add_cancel]; omega

theorem insPos_of_nonneg (l : List (Option Nat)) {index : Int} (h : 0 ≤ index) : insPos l index = index.toNat :=
  if_neg (by omega)

theorem insPos_of_neg (l : List (Option Nat)) {index : Int} (h : index < 0) :
    insPos l index = (l.length + index).toNat := by
  unfold insPos; rw [if_pos h, allocate_of_lt (by omega)]

theorem insPos_cases (l : List (Option Nat)) (index : Int) :
    allocate l (index - 1) = l ∨ insPos l index = (allocate l (index - 1)).length := by
  by_cases h : index - 1 < l.length
  · exact Or.inl (allocate_of_lt h)
  · right
    rw [insPos_of_nonneg l (by omega), allocate_eq_rightpad, List.length_rightpad, Int.sub_add_cancel,
      Nat.max_eq_left (by omega)]

structure RackAddOk (s : World) (f r i : Nat) (l : List (Option Nat)) (s' : World) : Prop where
  unowned : s.owner i = none
  state : s' = (s.setList f r l).setOwner i (some (.rack f r))

/-- Item `i` went into the empty position `k` of the rack, holes appended as far as `k` where the rack was shorter:
what `place`, `equip` and `append` do, each finding `k` in its own way. -/
structure RackPutOk (s : World) (f r k i : Nat) (s' : World) : Prop where
  hole : slotAt (s.lists f r) k = none
  add : RackAddOk s f r i (((s.lists f r).rightpad (k + 1) none).set k (some i)) s'

theorem RackPutOk.slotAt {s s' : World} {f r k i : Nat} (hq : RackPutOk s f r k i s') (j : Nat) :
    slotAt (s'.lists f r) j = if j = k then some i else slotAt (s.lists f r) j := by
  rw [hq.add.state, setOwner_lists, setList_lists_same, slotAt_set_rightpad]

def InsertOk (s : World) (f r : Nat) (index : Int) (v : Option Nat) (s' : World) : Prop :=
  (v = none ∧ s' = s.setList f r (cleanup (pyInsert (allocate (s.lists f r) (index - 1)) (insPos (s.lists f r) index) none))) ∨
  (∃ i, v = some i ∧
    RackAddOk s f r i (pyInsert (allocate (s.lists f r) (index - 1)) (insPos (s.lists f r) index) (some i)) s')

theorem listInsert_spec (U : Univ) (s : World) (f r : Nat) (index : Int) (v : Option Nat)
    (hnt : NoTrail (s.lists f r)) : Spec s (InsertOk s f r index v) (listInsert U s f r index v) := by
  unfold listInsert
  split
  · exact .error _
  · cases v with
    | none => exact .ok (Or.inl ⟨rfl, rfl⟩)
    | some i =>
      simp only [setList_owner, setList_setList]
      cases ho : s.owner i with
      | none => exact .ok (Or.inr ⟨i, rfl, ho, rfl⟩)
      | some p =>
        refine .rollback _ ?_
        -- the position the model computes inline is `insPos`; erasing there undoes the insert, cleaning up the allocation
        rw [show (if index < 0 then ((allocate (s.lists f r) (index - 1)).length + index).toNat else index.toNat)
          = insPos (s.lists f r) index from rfl, pyInsert_eraseIdx (insPos_le _ _), cleanup_allocate hnt, setList_self]

theorem InsertOk.slotAt {s s' : World} {f r : Nat} {index : Int} {v : Option Nat} (hq : InsertOk s f r index v s') (j : Nat) :
    slotAt (s'.lists f r) j = if j < insPos (s.lists f r) index then slotAt (s.lists f r) j
      else if j = insPos (s.lists f r) index then v else slotAt (s.lists f r) (j - 1) := by
  have hsl := slotAt_pyInsert (insPos_le (s.lists f r) index) v j
  rw [slotAt_allocate] at hsl
  rcases hq with ⟨hv, rfl⟩ | ⟨i, hv, _, rfl⟩
  · rw [setList_lists_same, slotAt_cleanup, ← hv, hsl]
  · rw [setOwner_lists, setList_lists_same, ← hv, hsl]

theorem listAppend_spec (U : Univ) (s : World) (f r : Nat) (v : Option Nat) :
    Spec s (fun s' => ∃ i, v = some i ∧ RackPutOk s f r (s.lists f r).length i s') (listAppend U s f r v) := by
  unfold listAppend
  cases v with
  | none => exact .error _
  | some i =>
    dsimp only; split
    · exact .error _
    · rw [setList_owner]
      cases ho : s.owner i with
      | none => exact .ok ⟨i, rfl, slotAt_of_length_le (Nat.le_refl _), ho, by simp [List.rightpad]⟩
      | some p => exact .rollback _ (by simp)

/-- `listPut` on a list `l` that is the rack with holes appended as far as `k`, at the empty position `k`. -/
theorem listPut_spec (s : World) (f r : Nat) {l : List (Option Nat)} {k : Nat} (i : Nat) (hnt : NoTrail (s.lists f r))
    (hl : l = (s.lists f r).rightpad (k + 1) none) (hk : slotAt (s.lists f r) k = none) :
    Spec s (RackPutOk s f r k i) (listPut s f r l k i) := by
  subst hl
  unfold listPut
  simp only [setList_owner, setList_setList]
  cases ho : s.owner i with
  | none => exact .ok ⟨hk, ho, rfl⟩
  | some p =>
    exact .rollback _ (by
      rw [set_set_none_of_hole (getElem?_rightpad_hole hk), List.rightpad, cleanup_append_nones, cleanup_of_noTrail hnt,
        setList_self])

/-- `k` is the position `index` denotes: counted from the front, or for a negative index from the end of the rack as
it was. -/
theorem listPlace_spec (U : Univ) (s : World) (f r : Nat) (index : Int) (v : Option Nat)
    (hnt : NoTrail (s.lists f r)) :
    Spec s (fun s' => ∃ i k, v = some i ∧ (0 ≤ index → k = index.toNat) ∧
      (index < 0 → (k : Int) = (s.lists f r).length + index) ∧ RackPutOk s f r k i s') (listPlace U s f r index v) := by
  unfold listPlace
  cases v with
  | none => exact .error _
  | some i =>
    dsimp only; split
    · exact .error _
    cases hp : pyIndex (s.lists f r).length index with
    | some k =>
      have hk := pyIndex_lt hp
      dsimp only
      cases hv : (s.lists f r)[k]? with
      | none => exact absurd hk (Nat.not_lt.2 (List.getElem?_eq_none_iff.1 hv))
      | some x =>
        cases x with
        | some j => exact .error _
        | none =>
          exact (listPut_spec s f r i hnt (rightpad_of_le hk).symm (slotAt_eq_none_of_getElem? hv)).mono
            fun s' h => ⟨i, k, rfl, pyIndex_nonneg hp, pyIndex_neg hp, h⟩
    | none =>
      dsimp only
      by_cases h0 : 0 ≤ index
      · have hl : allocate (s.lists f r) index = (s.lists f r).rightpad (index.toNat + 1) none := by
          rw [allocate_eq_rightpad, Int.toNat_add h0 (by decide)]; rfl
        rw [pyIndex_of_nonneg _ h0] at hp
        rw [pyIndex_allocate _ h0]
        exact (listPut_spec s f r i hnt hl (slotAt_of_length_le (by split at hp; cases hp; omega))).mono
          fun s' h => ⟨i, _, rfl, fun _ => rfl, fun hneg => absurd h0 (Int.not_le.2 hneg), h⟩
      · -- a negative index: nothing is allocated, and the index is out of range as before
        rw [allocate_of_lt (by omega), hp]
        exact .rollback _ (setList_self s f r)

/-- `k` is the first empty position: the first hole, or the position just past the end when there is none. -/
theorem listEquip_spec (U : Univ) (s : World) (f r : Nat) (v : Option Nat) (hnt : NoTrail (s.lists f r)) :
    Spec s (fun s' => ∃ i k, v = some i ∧ (∀ j, j < k → slotAt (s.lists f r) j ≠ none) ∧ RackPutOk s f r k i s')
      (listEquip U s f r v) := by
  unfold listEquip
  cases v with
  | none => exact .error _
  | some i =>
    dsimp only; split
    · exact .error _
    cases hx : indexOf? none (s.lists f r) with
    | some k =>
      obtain ⟨hv, hmin⟩ := indexOf?_some hx
      have hk := lt_length_of_getElem? hv
      exact (listPut_spec s f r i hnt (rightpad_of_le hk).symm (slotAt_eq_none_of_getElem? hv)).mono fun s' h =>
        ⟨i, k, rfl, fun j hj => slotAt_ne_none_of_not_hole (by omega) (hmin j hj), h⟩
    | none =>
      exact (listPut_spec s f r i hnt (by simp [List.rightpad]) (slotAt_of_length_le (Nat.le_refl _))).mono fun s' h =>
        ⟨i, _, rfl, fun j hj => slotAt_ne_none_of_not_hole hj fun hh => indexOf?_none hx (List.mem_of_getElem? hh), h⟩

theorem listRemoveAt_eq (s : World) (f r k : Nat) (x : Option Nat) (hk : (s.lists f r)[k]? = some x) :
    listRemoveAt s f r k = (.ok, (match x with | some i => s.setOwner i none | none => s).setList f r
      (cleanup ((s.lists f r).eraseIdx k))) := by
  unfold listRemoveAt
  cases x <;> simp [hk]

theorem listFreeAt_eq (s : World) (f r k : Nat) (x : Option Nat) (hk : (s.lists f r)[k]? = some x) :
    listFreeAt s f r k = (.ok, match x with
      | some i => (s.setOwner i none).setList f r (cleanup ((s.lists f r).set k none))
      | none => s) := by
  unfold listFreeAt
  cases x <;> simp [hk]

theorem listFreeAt_slotAt (s : World) (f r k : Nat) (hk : k < (s.lists f r).length) (j : Nat) :
    slotAt ((listFreeAt s f r k).2.lists f r) j = if j = k then none else slotAt (s.lists f r) j := by
  obtain ⟨x, hv⟩ : ∃ x, (s.lists f r)[k]? = some x := ⟨_, List.getElem?_eq_getElem hk⟩
  rw [listFreeAt_eq s f r k x hv]
  cases x with
  | none =>
    by_cases hj : j = k
    · rw [if_pos hj, hj]; exact slotAt_eq_none_of_getElem? hv
    · rw [if_neg hj]
  | some i => simp only [setList_lists_same, slotAt_cleanup]; exact slotAt_set hk none j

theorem listRemoveAt_slotAt (s : World) (f r k : Nat) (j : Nat) :
    slotAt ((listRemoveAt s f r k).2.lists f r) j = if j < k then slotAt (s.lists f r) j else slotAt (s.lists f r) (j + 1) := by
  unfold listRemoveAt
  simp only [setList_lists_same, slotAt_cleanup]
  exact slotAt_eraseIdx _ k j

theorem listRemoveAt_ok (s : World) (f r k : Nat) : (listRemoveAt s f r k).1 = .ok := rfl

theorem listFreeAt_ok (s : World) (f r k : Nat) : (listFreeAt s f r k).1 = .ok := by
  unfold listFreeAt; dsimp only; split <;> rfl

theorem listAtIdx_spec {s : World} {f r : Nat} (act : World → Nat → Nat → Nat → Res) (hact : ∀ k, (act s f r k).1 = .ok)
    (index : Int) :
    Spec s (fun s' => ∃ k, pyIndex (s.lists f r).length index = some k ∧ k < (s.lists f r).length ∧ s' = (act s f r k).2)
      (listAtIdx act s f r index) := by
  unfold listAtIdx
  cases hp : pyIndex (s.lists f r).length index with
  | none => exact .error _
  | some k => dsimp only; rw [← Prod.eta (act s f r k), hact]; exact .ok ⟨k, rfl, pyIndex_lt hp, rfl⟩

theorem listAtVal_spec {s : World} {f r : Nat} (act : World → Nat → Nat → Nat → Res) (hact : ∀ k, (act s f r k).1 = .ok)
    (v : Option Nat) :
    Spec s (fun s' => ∃ k, (s.lists f r)[k]? = some v ∧ (∀ j < k, (s.lists f r)[j]? ≠ some v) ∧ s' = (act s f r k).2)
      (listAtVal act s f r v) := by
  unfold listAtVal
  cases hp : indexOf? v (s.lists f r) with
  | none => exact .error _
  | some k => dsimp only; rw [← Prod.eta (act s f r k), hact]; exact .ok ⟨k, (indexOf?_some hp).1, (indexOf?_some hp).2, rfl⟩

structure SetAddOk (s : World) (c : SetId) (i : Nat) (s' : World) : Prop where
  unowned : s.owner i = none
  state : s' = (s.setSet c (if i ∈ s.sets c then s.sets c else i :: s.sets c)).setOwner i (some (.set c))

theorem setAdd_spec (U : Univ) (s : World) (c : SetId) (v : Option Nat) :
    Spec s (fun s' => ∃ i, v = some i ∧ SetAddOk s c i s') (setAdd U s c v) := by
  cases v with
  | none => exact .error _
  | some i =>
    -- split while the `let`s are still in place: substituted, `l1` carries its `if` into every branch
    rw [setAdd]; split
    · exact .error _
    · dsimp only [setSet_owner]
      cases ho : s.owner i with
      | none => exact .ok ⟨i, rfl, ho, by simp⟩
      | some p => exact .rollback _ (by by_cases hm : i ∈ s.sets c <;> simp [hm])

theorem setRemove_spec (s : World) (c : SetId) (v : Option Nat) :
    Spec s (fun s' => ∃ i, v = some i ∧ i ∈ s.sets c ∧ s' = (s.setOwner i none).setSet c ((s.sets c).erase i))
      (setRemove s c v) := by
  unfold setRemove
  cases v with
  | none => exact .error _
  | some i =>
    dsimp only; split
    · exact .ok ⟨i, rfl, ‹_›, rfl⟩
    · exact .error _

structure KeyedAddOk (s : World) (c : SetId) (key i : Nat) (s' : World) : Prop where
  free : lookupKey key (s.keyed c) = none
  add : SetAddOk (s.setKeyed c ((key, i) :: s.keyed c)) c i s'

theorem keyedAdd_spec (U : Univ) (s : World) (c : SetId) (key : Nat) (v : Option Nat) :
    Spec s (fun s' => ∃ i, v = some i ∧ KeyedAddOk s c key i s') (keyedAdd U s c key v) := by
  unfold keyedAdd
  split
  · exact .error _
  split
  · rename_i i hl _
    dsimp only
    have h := setAdd_spec U (s.setKeyed c ((key, i) :: s.keyed c)) c (some i)
    generalize setAdd U _ c (some i) = res at h ⊢
    cases h with
    | error e => exact .rollback _ (by simp [delKey_cons_self hl])
    | ok h =>
      obtain ⟨j, hj, h⟩ := h
      cases hj
      exact .ok ⟨i, rfl, hl, h⟩
  · exact .error _

structure KeyedRemoveOk (s : World) (c : SetId) (key i : Nat) (s' : World) : Prop where
  mem : i ∈ s.sets c
  state : s' = ((s.setOwner i none).setSet c ((s.sets c).erase i)).setKeyed c (delKey key (s.keyed c))

/-- `ItemSet.remove` then `del map[key]`, when the key is there whenever the item is: never the half-way KeyError. -/
theorem keyedRemove_spec (s : World) (c : SetId) (key : Nat) (v : Option Nat)
    (hl : ∀ i, v = some i → i ∈ s.sets c → (lookupKey key (s.keyed c)).isSome) :
    Spec s (fun s' => ∃ i, v = some i ∧ KeyedRemoveOk s c key i s') (keyedRemove s c key v) := by
  unfold keyedRemove
  have h := setRemove_spec s c v
  generalize setRemove s c v = res at h ⊢
  cases h with
  | error e => exact .error _
  | ok h =>
    obtain ⟨i, hv, hm, rfl⟩ := h
    simp only [setSet_keyed, setOwner_keyed]
    cases hk : lookupKey key (s.keyed c) with
    | none => have := hl i hv hm; rw [hk] at this; cases this
    | some x => exact .ok ⟨i, hv, hm, rfl⟩

theorem tuAdd_spec (U : Univ) (s : World) (f : Nat) (v : Option Nat) :
    Spec s (fun s' => ∃ i, v = some i ∧ KeyedAddOk s (.skills f) (U.tid i) i s') (tuAdd U s f v) := by
  unfold tuAdd
  cases v with
  | none => exact .error _
  | some i => refine (keyedAdd_spec U s _ _ _).mono ?_; rintro _ ⟨_, ⟨⟩, h⟩; exact ⟨_, rfl, h⟩

theorem dictDel_spec (s : World) (m key : Nat) :
    Spec s (fun s' => ∃ i, lookupKey key (s.keyed (.auto m)) = some i ∧ KeyedRemoveOk s (.auto m) key i s')
      (dictDel s m key) := by
  unfold dictDel
  cases hl : lookupKey key (s.keyed (.auto m)) with
  | none => exact .error _
  | some i =>
    refine (keyedRemove_spec s _ key _ fun _ _ _ => hl ▸ rfl).mono ?_
    rintro _ ⟨_, ⟨⟩, hq⟩; exact ⟨_, rfl, hq⟩

def World.release (s : World) (c : SlotId) : World :=
  (match s.slots c with | some o => s.setOwner o none | none => s).setSlot c none

def AssignOk (s : World) (c : SlotId) (v : Option Nat) (s' : World) : Prop :=
  (v = none ∧ s' = s.release c) ∨
  (∃ i, v = some i ∧ (s.release c).owner i = none ∧ s' = ((s.release c).setSlot c (some i)).setOwner i (some (.slot c)))

theorem assign_spec (U : Univ) {s : World} (h : OwnInv s) (c : SlotId) (v : Option Nat) :
    Spec s (AssignOk s c v) (assign U s c v) := by
  unfold assign
  split
  · exact .error _
  cases v with
  | none => exact .ok (Or.inl ⟨rfl, rfl⟩)
  | some i =>
    simp only [setSlot_owner, setSlot_setSlot]
    split
    -- closing `rfl`: the two sides differ only in the auxiliary matcher (that of `assign`, that of `release`)
    · next ho => exact .ok (Or.inr ⟨i, rfl, ho, by rw [World.release, setSlot_setSlot]; rfl⟩)
    · refine .rollback _ ?_
      cases hold : s.slots c with
      | none => show s.setSlot c none = s; rw [← hold, setSlot_self]
      | some o =>
        -- the old item is installed again: slot and owner get back the values they had in `s`
        have hown : s.owner o = some (.slot c) := (h.mem_iff (.slot c) o).1 (by simp [contents, hold])
        show ((s.setOwner o none).setSlot c (some o)).setOwner o (some (.slot c)) = s
        rw [setOwner_setSlot, setOwner_setOwner, ← hold, setSlot_self, ← hown, setOwner_self]

end Eos.Containers
