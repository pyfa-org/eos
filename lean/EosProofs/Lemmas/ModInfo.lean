import EosModel.ModInfo
/-! Helper lemmas for C19 (modifier info): counting, the vocabulary, and what the kernel evaluates on the generated
table: the row check with shared decoders (`rowOkLit`) and the value of a block (`blockSpecLin`).

An entry converts when its header (domain, operation) and its id fields both do, and then its record is the sum
of a header part and an id part; otherwise the record is 20. A block's number is therefore linear in the header
part, with coefficients that depend on the function alone (`blockSpec_eq`). -/
namespace Eos.C19
open Eos.ModInfo

/-- `filterMap` keeps an element or drops it: each is counted once. -/
theorem length_filterMap_add_countP {α β : Type} (f : α → Option β) (l : List α) :
    (l.filterMap f).length + l.countP (fun a => (f a).isNone) = l.length := by
  rw [List.length_filterMap_eq_countP, List.length_eq_countP_add_countP fun a => (f a).isSome]
  congr 2; funext a; cases f a <;> rfl

theorem operatorOfCode_none (c : Int) (hc : c < -1 ∨ 7 < c) : operatorOfCode c = none := by
  have h : ∀ k : Int, -1 ≤ k → k ≤ 7 → (c = k) = False := by intro k h1 h2; simp; omega
  simp [operatorOfCode, h]

/-- `f n`, with `n` evaluated first. The kernel substitutes arguments unevaluated and remembers the value of a
    closed term under its syntactic form only: `decOp (hdr % 100)` is a new term for every `hdr`, whereas after
    the match `decOp (k + 1)` is one term for all headers with that operation, so a decoder is evaluated once for
    each value of its digit and not once for each row (its `match` on a literal is a chain of `Nat.decEq`). -/
def atLit {α : Type} (f : Nat → α) : Nat → α
  | 0 => f 0
  | n + 1 => f (n + 1)

theorem atLit_eq {α : Type} (f : Nat → α) (n : Nat) : atLit f n = f n := by cases n <;> rfl

/-- `decodeEntry`, each decoder evaluated once for each value of its digit (`atLit`). -/
def decodeEntryLit (c : Nat) : Option Entry :=
  match atLit decFunc (c / 10000000), atLit decDomain (c / 1000000 % 10), atLit decOp (c / 10000 % 100),
        atLit (decId 10) (c / 1000 % 10), atLit (decId 20) (c / 100 % 10), atLit (decId 30) (c / 10 % 10),
        atLit (decId 40) (c % 10) with
  | some fo, some d, some o, some g, some s, some t, some m =>
    some (match fo with | none => .nonDict | some f => .dict f d o g s t m)
  | _, _, _, _, _, _, _ => none

/-- `rowOk` through `decodeEntryLit`: what the kernel evaluates on the irregular rows. -/
def rowOkLit (r : Nat × Nat × Nat) : Bool :=
  match decodeEntryLit r.1 with
  | some e => encodeOutcome (convertEntry e) == r.2.1 && viewOf (convertEntry e) == r.2.2
  | none => false

theorem rowOkLit_eq : rowOkLit = rowOk := by
  funext r
  unfold rowOkLit decodeEntryLit
  repeat rewrite [atLit_eq]
  rfl

/-- Validation verdict of a converted modifier: function and domain decide it (`valid_converted`). -/
def okAt (f : Func) (d : Domain) : Bool :=
  match f with
  | .item => true
  | .ownerSkill => d == .character
  | _ => d != .other

theorem valid_converted {f : Func} {g s : IdShape} {x : Option Int} (hx : extraOf f g s = some x)
    (d : Domain) (t m : Int) (o : Operator) : valid ⟨filterOf f, d, x, t, o, .stack, none, m⟩ = okAt f d := by
  cases f <;> simp only [extraOf, Option.some.injEq, Option.map_eq_some_iff] at hx
  case item | location => subst hx; simp [valid, filterOf, okAt]
  all_goals obtain ⟨_, _, rfl⟩ := hx; simp [valid, filterOf, okAt]

/-- Header part of a record: digits `v f d`, `oo`, `a` of the outcome code and the build view. -/
def hdrCode (f : Func) (d : Domain) (o : Operator) : Nat :=
  (((if okAt f d then 2 else 1) * 10 + (filterOf f).code) * 10 + d.code) * 10 ^ 17 + o.code * 10 ^ 9 + 10 ^ 8 +
    (if okAt f d then 41 else 20)

def hdrOf (f : Func) (dom : DomainField) (op : OpField) : Option Nat :=
  match domainOf dom, operatorOf op with
  | some d, some o => some (hdrCode f d o)
  | _, _ => none

/-- Id part of a record: digits `eee`, `ttt`, `sss` of the outcome code. -/
def idsOf (f : Func) (p : IdShape × IdShape × IdShape × IdShape) : Option Nat :=
  match extraOf f p.1 p.2.1, p.2.2.1.toInt?, p.2.2.2.toInt? with
  | some x, some t, some m => some (optIntCode x * 10 ^ 14 + intCode t * 10 ^ 11 + intCode m * 100)
  | _, _, _ => none

def record (h i : Option Nat) : Nat :=
  match h, i with
  | some h, some i => h + i
  | _, _ => 20

theorem record_eq (f : Func) (dom : DomainField) (op : OpField) (g s t m : IdShape) :
    encodeOutcome (convertEntry (.dict (.known f) dom op g s t m)) * 100 +
        viewOf (convertEntry (.dict (.known f) dom op g s t m)) =
      record (hdrOf f dom op) (idsOf f (g, s, t, m)) := by
  simp only [convertEntry, hdrOf, idsOf, record]
  cases domainOf dom
  · simp only [encodeOutcome, viewOf]
  cases hx : extraOf f g s <;> cases t.toInt? <;> cases operatorOf op <;> cases m.toInt?
  case some.some.some.some =>
    simp +arith only [encodeOutcome, viewOf, valid_converted hx, hdrCode, AggMode.code, optIntCode]
  all_goals simp only [encodeOutcome, viewOf]

theorem foldl_record {α : Type} (B h : Nat) (ids : α → Option Nat) (ps : List α) (m n : Nat) :
    ps.foldl (fun acc p => acc * B + record (some h) (ids p)) (h * m + n) =
      h * ps.foldl (fun acc p => acc * B + if (ids p).isSome then 1 else 0) m +
        ps.foldl (fun acc p => acc * B + (ids p).getD 20) n := by
  induction ps generalizing m n with
  | nil => rfl
  | cons p ps ih =>
    rw [List.foldl_cons, List.foldl_cons, List.foldl_cons, ← ih]
    congr 1
    cases ids p <;> simp +arith only [record, Option.isSome, Option.getD, if_true, Bool.false_eq_true, if_false,
      Nat.add_mul, Nat.mul_add, Nat.mul_assoc]

/-- Where the id patterns of `f` convert (a 1 in the record's place), and their id parts (20 where not). -/
def blockMask (f : Func) : Nat :=
  (idPatterns f).foldl (fun acc p => acc * 10 ^ 20 + if (idsOf f p).isSome then 1 else 0) 0
def blockBase (f : Func) : Nat := (idPatterns f).foldl (fun acc p => acc * 10 ^ 20 + (idsOf f p).getD 20) 1
/-- The block of a header that does not convert. -/
def blockFail (f : Func) : Nat := (idPatterns f).foldl (fun acc _ => acc * 10 ^ 20 + 20) 1

/-- `blockSpec` with the fold over the id patterns replaced by its value. This is what the kernel is given to
    evaluate: `blockMask f`, `blockBase f` and `blockFail f` are closed terms, which it evaluates once for all
    blocks of `f` checked in one declaration; what is left per block is the header (its three decoders once for
    each value of their digit: `atLit`) and one multiplication, where `blockSpec` converts and encodes every id
    pattern anew in each of the 88 blocks of a function. -/
def blockSpecLin (hdr : Nat) : Option Nat :=
  match atLit funcOfDigit (hdr / 1000), atLit decDomain (hdr / 100 % 10), atLit decOp (hdr % 100) with
  | some f, some dom, some op =>
    some (match hdrOf f dom op with | some h => h * blockMask f + blockBase f | none => blockFail f)
  | _, _, _ => none

theorem blockSpec_eq (hdr : Nat) : blockSpec hdr = blockSpecLin hdr := by
  unfold blockSpec blockSpecLin
  rw [atLit_eq, atLit_eq, atLit_eq]
  cases funcOfDigit (hdr / 1000)
  · rfl
  cases decDomain (hdr / 100 % 10)
  · rfl
  cases decOp (hdr % 100)
  · rfl
  rename_i f dom op
  have hrec : (fun acc (p : IdShape × IdShape × IdShape × IdShape) =>
      match p with
      | (g, s, t, m) =>
        let c := convertEntry (.dict (.known f) dom op g s t m)
        acc * 10 ^ 20 + (encodeOutcome c * 100 + viewOf c)) =
      fun acc p => acc * 10 ^ 20 + record (hdrOf f dom op) (idsOf f p) :=
    funext fun acc => funext fun ⟨g, s, t, m⟩ => congrArg _ (record_eq f dom op g s t m)
  simp only [hrec]
  cases hdrOf f dom op with
  | none => rfl
  | some h => exact congrArg some (foldl_record (10 ^ 20) h (idsOf f) (idPatterns f) 0 1)

end Eos.C19
