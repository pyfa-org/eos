import EosModel.Rah
/-! The guards of property C12 (reactive armor hardener): what its theorems assume of a hardener, of the damage
profile, of the rest of the calculator and of a history of operations. "Inside the guard", here and in the files
that import this one, means: for inputs that satisfy these. -/
namespace Eos.Rah

/-- Absent shift / cycle time are allowed: the run then fails and the unsimulated values are used. -/
structure RahOK (r : Rah) : Prop where
  sum_gt : 3 < r.base.sum
  le_one : ∀ t, r.base.get t ≤ 1
  shift_nonneg : ∀ s, r.shift = some s → 0 ≤ s
  dur_pos : ∀ d, r.dur = some d → 0 < d

structure EnvOK (env : Env) : Prop where
  prof_nonneg : ∀ t, 0 ≤ env.profile.get t
  prof_pos : ∃ t, 0 < env.profile.get t
  ship_pos : ∀ rs s, env.ship rs = some s → (∀ v ∈ rs, ∀ t, 0 < v.get t) → ∀ t, 0 < s.get t

structure RahFull (r : Rah) : Prop where
  ok : RahOK r
  shift : ∃ s, r.shift = some s ∧ 0 < s
  dur : ∃ d, r.dur = some d ∧ 0 < d

structure EnvFull (env : Env) : Prop where
  ok : EnvOK env
  total : ∀ rs, ∃ s, env.ship rs = some s

variable {σ : Type}

/-- A damage profile as `DmgProfile` accepts it. -/
def ProfOK (p : Vec) : Prop := (∀ t, 0 ≤ p.get t) ∧ ∃ t, 0 < p.get t

/-- Unlike `EnvOK.ship_pos` this also assumes the ship function total: it is `EnvFull` for every `s`
    (`ShipFnOK.envFull`). -/
def ShipFnOK (shipFn : σ → List Vec → Option Vec) : Prop :=
  ∀ s rs, ∃ v, shipFn s rs = some v ∧ ((∀ x ∈ rs, ∀ t, 0 < x.get t) → ∀ t, 0 < v.get t)

theorem ShipFnOK.envFull {shipFn : σ → List Vec → Option Vec} (hs : ShipFnOK shipFn) (s : σ) {p : Vec} (hp : ProfOK p) :
    EnvFull ⟨shipFn s, p⟩ :=
  ⟨⟨hp.1, hp.2, fun rs v hv => by obtain ⟨v', hv', h'⟩ := hs s rs; cases hv.symm.trans hv'; exact h'⟩,
   fun rs => (hs s rs).imp fun _ h => h.1⟩

/-- Operations inside the guard. `shipMod []` is left out: a ship change that announces no resonance clears nothing.
    `setShift` / `setDur` set a positive value and `start` brings a `RahFull` hardener: then every run with a ship
    succeeds and marks the shift and cycle-time values as held by the calculator (`markRead`), so that their later
    changes are announced; after a failed run they would not be, and stored results could go stale. -/
def ValidOp : Op σ → Prop
  | .setRahProfile (some p) => ProfOK p
  | .setDefProfile p => ProfOK p
  | .shipMod ts _ => ts ≠ []
  | .setShift _ v => ∃ s, v = some s ∧ 0 < s
  | .setDur _ v => ∃ d, v = some d ∧ 0 < d
  | .setBase _ v => 3 < v.sum ∧ ∀ t, v.get t ≤ 1
  | .start r _ _ => RahFull r
  | _ => True

end Eos.Rah
