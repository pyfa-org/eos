import EosModel.Restrictions
import EosProofs.Lemmas.RestrRegisters
import EosProofs.Lemmas.ListFacts
/-! C03, specification side: a register derived from a snapshot holds what an agreeing message history
left in the real one (`derivedCfg_inv`, hence `regs_perm`); the rules do not depend on the order of their
register; skipping restriction types only omits their entries. -/
namespace Eos.Restr
open Eos.Toggle

theorem mem_ids_of_mem {cfg : Snapshot} {it : Item} (h : it ∈ cfg.items) : it.id ∈ cfg.ids :=
  List.mem_map_of_mem h

theorem flagCfg_eq {μ : Micro} {cfg : Snapshot} (h : Agree μ cfg) {it : Item} (hit : it ∈ cfg.items)
    (hl : it.td.isSome) (tr : Trigger) : tr.flag μ it.id = tr.flagCfg it := by
  cases tr with
  | load => rfl
  | state s => exact h.states it hit hl s
  | effect e => exact h.running it hit hl e

theorem derived_of_agree (r : RegSpec) {μ : Micro} {cfg : Snapshot} (h : Agree μ cfg) {it : Item} (hit : it ∈ cfg.items) :
    derived r μ it.id = if r.trigger.flagCfg it then it.td.bind (r.pick it.cls) else none := by
  have hd := h.data it hit
  cases htd : it.td with
  | none => simp [derived, hd, htd]
  | some t => simp [derived, hd, htd, flagCfg_eq h hit (by simp [htd])]

theorem mem_derivedCfg {r : RegSpec} {cfg : Snapshot} {i : Nat} {d : Payload} :
    (i, d) ∈ derivedCfg r cfg ↔
      ∃ it ∈ cfg.items, r.trigger.flagCfg it ∧ it.td.bind (r.pick it.cls) = some d ∧ it.id = i :=
  mem_filterMap_keyed

theorem derivedCfg_inv (r : RegSpec) {μ : Micro} {cfg : Snapshot} (h : Agree μ cfg) :
    Inv (derived r μ) (derivedCfg r cfg) := by
  refine ⟨fun i d => mem_derivedCfg.trans ?_, nodup_filterMap_keyed h.nodup⟩
  constructor
  · rintro ⟨it, hit, hf, hd, rfl⟩
    rw [derived_of_agree r h hit, if_pos hf, hd]
  · intro hd
    -- only loaded items have anything derived, and those are item records
    have hne : μ.data i ≠ none := fun hn => by simp [derived, hn] at hd
    obtain ⟨it, hit, rfl⟩ := List.mem_map.1 (h.live i hne)
    obtain ⟨hf, hd⟩ := Option.ite_none_right_eq_some.1 ((derived_of_agree r h hit).symm.trans hd)
    exact ⟨it, hit, hf, hd, rfl⟩

theorem regs_perm {μ : Micro} {cfg : Snapshot} {regs : Regs} (hi : RegsInv μ regs) (h : Agree μ cfg) (t : RType) :
    (regs t).Perm (derivedCfg (regSpec t) cfg) :=
  perm_of_inv (hi t) (derivedCfg_inv (regSpec t) h)

/-- A check reads the register as a whole only through `countP` (items of the same group / slot). -/
theorem check_perm (t : RType) (cfg : Snapshot) {x y : Reg Payload} (h : x.Perm y) : check t cfg x = check t cfg y := by
  funext e
  simp only [check, h.countP_eq]

theorem ruleReg_perm (t : RType) {x y : Reg Payload} (h : x.Perm y) (cfg : Snapshot) :
    (ruleReg t x cfg).Perm (ruleReg t y cfg) := by
  unfold ruleReg
  split
  · exact List.Perm.refl _
  · rw [check_perm t cfg h]; exact h.filterMap _

theorem rule_perm (t : RType) {x y : Reg Payload} (h : x.Perm y) (cfg : Snapshot) :
    (rule t x cfg).Perm (rule t y cfg) := by
  unfold rule
  split
  · exact ruleReg_perm t h cfg
  · exact List.Perm.refl _

theorem validateWith_perm {f g : RType → Tainted} (h : ∀ t, (f t).Perm (g t)) (skip : List RType) :
    (validateWith f skip).Perm (validateWith g skip) := by
  unfold validateWith
  exact flatMap_perm_pointwise _ _ _ fun t _ => (h t).map _

theorem validateWith_skip (f : RType → Tainted) (skip : List RType) :
    validateWith f skip = (validateWith f []).filter (fun e => !skip.contains e.2.1) := by
  unfold validateWith
  have h0 : RType.all.filter (fun t => !([] : List RType).contains t) = RType.all := by
    apply List.filter_eq_self.2; intro t _; simp
  rw [h0]
  exact flatMap_filter_tag (fun t => !skip.contains t) (fun t => (f t).map fun e => (e.1, t, e.2)) (·.2.1)
    (by intro a b hb; obtain ⟨e, _, rfl⟩ := List.mem_map.1 hb; rfl) RType.all

theorem mem_validateWith {f : RType → Tainted} {skip : List RType} {e : Nat × RType × ErrData}
    (h : e ∈ validateWith f skip) : (e.1, e.2.2) ∈ f e.2.1 ∧ skip.contains e.2.1 = false := by
  unfold validateWith at h
  obtain ⟨t, ht, he⟩ := List.mem_flatMap.1 h
  obtain ⟨x, hx, rfl⟩ := List.mem_map.1 he
  have := (List.mem_filter.1 ht).2
  exact ⟨hx, by simpa using this⟩

end Eos.Restr
