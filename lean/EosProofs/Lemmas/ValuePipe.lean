import EosProofs.Lemmas.GatherNF
import EosProofs.Lemmas.CalcBasic
/-! `World.valueOf` and `Micro.valueOfD` are one calculation applied to two gatherings (`valueWith`): facts about
the calculation around the gathering are proved once, for both. -/
namespace Eos.World
open Eos.Calc Eos.Micro

variable {u : Universe} {cfg : Config}

theorem valueOfD_eq_with (d : Dyn) (immune limited : List Int) (pen : Nat → Rat) (rd : Reader) (x : Item)
    (am : AttrMeta) :
    valueOfD u cfg d immune limited pen rd x am =
      valueWith limited pen rd x am (typeOf? u d x) fun tx => gatherD u cfg d immune rd x tx am.id := by rfl

/-- `ψ` relabels the item's type (`Lemmas/IterOrder.lean` compares a universe with one whose types list effects or
modifiers in another order) and must keep the base value; `Lemmas/MicroSettle.lean` takes `ψ := id`. -/
theorem valueWith_rel {limited : List Int} {pen : Nat → Rat} {rd : Reader} {x : Item} {am : AttrMeta}
    {ty ty' : Option ItemType} {g g' : ItemType → Except Val (List Calc.Mod)} (ψ : ItemType → ItemType)
    (hty : ty' = ty.map ψ) (hb : ∀ tx, baseOf (ψ tx) am = baseOf tx am)
    (h : ∀ tx, ty = some tx → C08World.RelOut (g tx) (g' (ψ tx))) :
    valueWith limited pen rd x am ty g = valueWith limited pen rd x am ty' g' ∨
      ∃ tx, g tx = .error (valueWith limited pen rd x am ty g) ∧
        g' (ψ tx) = .error (valueWith limited pen rd x am ty' g') := by
  subst hty
  unfold valueWith
  cases x.kind == .skill && am.id == 280
  · cases ty with
    | none => exact Or.inl rfl
    | some tx =>
      dsimp only [Option.map]
      rw [hb tx]
      cases baseOf tx am with
      | none => exact Or.inl rfl
      | some b =>
        rcases h tx rfl with ⟨l, l', h1, h2, hp⟩ | ⟨w, w', h1, h2⟩
        · left
          simp only [h1, h2, calculate_perm' pen am.stackable am.hig b hp]
        · simp only [h1, h2]
          exact Or.inr ⟨tx, h1, h2⟩
  · exact Or.inl rfl

/-- Where `hrd` comes from: the public read of a rank-well-formed table never answers `notWF` (`read_ne`), a
`Micro.readerOf` answers no error at all. -/
theorem IsErrOf.eq_divZero {rd : Reader} (hrd : ∀ y a, rd y a ≠ .notWF) {w : Val} (h : IsErrOf rd w) :
    w = .divZero := by
  obtain ⟨hk | hk, y, a, hr⟩ := h
  · exact hk
  · exact absurd (hr.trans hk) (hrd y a)

end Eos.World
