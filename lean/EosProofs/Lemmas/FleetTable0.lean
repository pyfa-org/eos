import EosGen.FleetTable0
namespace Eos.C13
open Eos.AffectsSpec EosGen.FleetTable

theorem fleet_block0_ok : fleetBlockOk blockF0 blockF0Cases blockF0Boosted = true := by decide +kernel

end Eos.C13
