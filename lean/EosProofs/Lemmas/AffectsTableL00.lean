import EosGen.AffectsTableL00
namespace Eos.C02
open Eos.AffectsSpec EosGen.AffectsTable

theorem affects_blockL00_ok : localBlockOk blockL00 blockL00Cases blockL00Modified blockL00Valid = true := by decide +kernel

end Eos.C02
