import EosProofs.Lemmas.RahGuards
import EosProofs.Lemmas.RahShift
/-! The tick loop of the reactive armor hardener simulation (property C12): what each stage of a tick computes,
the invariant `Good` of one hardener's state, and one induction over `simulate` (`simulate_induct`) from which the
bound on the ticks, the invariant of the results and the absence of failures are read off.

Why the sum of a hardener's resonances is conserved, in one piece: inside the guard all its resonances stay positive
(sum above 3, none above 1), so the ship's are; a cycle ends only after positive time (`Ready`), so on a profile type
the hardener has then received positive damage (`accum_good`); hence its shift has a recipient and `nextResos_sum`
applies (`shift_good`). -/
namespace Eos.Rah
open List (Forall₂)

theorem mapO_eq_some_iff {α β : Type} {f : α → Option β} {l : List α} {l' : List β} :
    mapO f l = some l' ↔ Forall₂ (fun a b => f a = some b) l l' := by
  induction l generalizing l' with
  | nil => rw [mapO, List.forall₂_nil_left_iff, Option.some.injEq, eq_comm]
  | cons a l ih =>
    rw [List.forall₂_cons_left_iff]
    constructor
    · intro h
      unfold mapO at h
      split at h <;> cases h
      exact ⟨_, _, ‹_›, ih.mp ‹_›, rfl⟩
    · rintro ⟨b, bs, hb, hbs, rfl⟩
      rw [mapO, hb, ih.mpr hbs]

theorem exists_mapO_eq_some {α β γ : Type} {f : β → Option γ} {R : α → β → Prop} (h : ∀ a b, R a b → ∃ c, f b = some c)
    {l : List α} {l' : List β} (hl : Forall₂ R l l') : ∃ l'', mapO f l' = some l'' := by
  induction hl with
  | nil => exact ⟨[], rfl⟩
  | cons hab _ ih =>
    obtain ⟨c, hc⟩ := h _ _ hab
    obtain ⟨cs, hcs⟩ := ih
    exact ⟨c :: cs, by rw [mapO, hc, hcs]⟩

theorem forall₂_exists_right {α β : Type} {R : α → β → Prop} {l : List α} {l' : List β} (h : Forall₂ R l l') {a : α}
    (ha : a ∈ l) : ∃ b ∈ l', R a b := by
  induction h with
  | nil => cases ha
  | cons hab _ ih =>
    rcases List.mem_cons.mp ha with rfl | ha
    · exact ⟨_, List.mem_cons_self, hab⟩
    · obtain ⟨b, hb, h⟩ := ih ha; exact ⟨b, List.mem_cons_of_mem _ hb, h⟩

theorem forall₂_exists_left {α β : Type} {R : α → β → Prop} {l : List α} {l' : List β} (h : Forall₂ R l l') {b : β}
    (hb : b ∈ l') : ∃ a ∈ l, R a b :=
  forall₂_exists_right (R := flip R) (List.Forall₂.flip (R := flip R) h) hb

theorem forall₂_mapO {α β γ : Type} {R : α → β → Prop} {S : α → γ → Prop} {f : β → Option γ} {l : List α}
    {l' : List β} {l'' : List γ} (hl : Forall₂ R l l') (h : mapO f l' = some l'')
    (hf : ∀ a, ∀ b ∈ l', ∀ c, R a b → f b = some c → S a c) : Forall₂ S l l'' := by
  rw [mapO_eq_some_iff] at h
  induction hl generalizing l'' with
  | nil => cases h; exact .nil
  | cons hab _ ih =>
    obtain ⟨c, cs, hc, hcs, rfl⟩ := List.forall₂_cons_left_iff.mp h
    exact .cons (hf _ _ List.mem_cons_self _ hab hc) (ih hcs fun a b hb => hf a b (List.mem_cons_of_mem _ hb))

theorem mapO_singleton {α β : Type} (f : α → Option β) (a : α) : mapO f [a] = (f a).map fun b => [b] := by
  unfold mapO mapO; cases f a <;> rfl

theorem minList_eq_min? (l : List Rat) : minList l = l.min? := by
  induction l with
  | nil => rfl
  | cons a l ih => rw [minList, ih, List.min?_cons]; cases l.min? <;> simp [rmin_eq_min]

theorem sigRound_some {x : Rat} (h : x ≠ 0) (n : Nat) : ∃ y, sigRound x n = some y := by simp [sigRound, h]

theorem stepCycle_cases {tp : Rat} {r r' : RS} (h : stepCycle tp r = some r') :
    ∃ d, r.rah.dur = some d ∧ (r' = { r with cyc := 0, cycled := true } ∨
      r.cyc + tp ≠ d ∧ r' = { r with cyc := r.cyc + tp, cycled := false }) := by
  unfold stepCycle at h
  split at h
  · cases h
  · rename_i d hd
    refine ⟨d, hd, ?_⟩
    split at h
    · rename_i a b ha hb
      split at h <;> cases h
      · exact Or.inl rfl
      · rename_i hne; exact Or.inr ⟨fun e => hne (Option.some.inj ((e ▸ ha).symm.trans hb)), rfl⟩
    · cases h

theorem stepCycle_some {tp d : Rat} {r : RS} (hd : r.rah.dur = some d) (h0 : d ≠ 0) (h : r.cyc + tp ≠ 0) :
    ∃ r', stepCycle tp r = some r' := by
  obtain ⟨a, ha⟩ := sigRound_some h sigDigits
  obtain ⟨b, hb⟩ := sigRound_some h0 sigDigits
  simp only [stepCycle, hd, ha, hb]
  split <;> exact ⟨_, rfl⟩

theorem stepCycle_dur_zero {tp : Rat} {r : RS} (hd : r.rah.dur = some 0) : stepCycle tp r = none := by
  have h0 : sigRound 0 sigDigits = none := if_pos rfl
  simp only [stepCycle, hd, h0]
  split
  · rename_i h; cases h
  · rfl

theorem remaining_eq_some {r : RS} {x : Rat} : remaining r = some x ↔ ∃ d, r.rah.dur = some d ∧ d - r.cyc = x := by
  simp [remaining]

theorem advance_eq_some {st st1 : List RS} {tp : Rat} : advance st = some (tp, st1) ↔
    ∃ rems, mapO remaining st = some rems ∧ rems.min? = some tp ∧ mapO (stepCycle tp) st = some st1 := by
  constructor
  · intro h
    unfold advance at h
    split at h; · cases h
    split at h; · cases h
    obtain ⟨_, h3, e⟩ := Option.map_eq_some_iff.mp h
    cases e; exact ⟨_, ‹_›, (minList_eq_min? _).symm.trans ‹_›, h3⟩
  · rintro ⟨rems, h1, h2, h3⟩; simp only [advance, h1, minList_eq_min?, h2, h3, Option.map_some]

theorem shift_false {r : RS} (hc : r.cycled = false) : shiftIfCycled r = some r := by simp [shiftIfCycled, hc]

theorem shift_none {r : RS} (hc : r.cycled = true) (hs : r.rah.shift = none) : shiftIfCycled r = none := by
  simp [shiftIfCycled, hc, hs]

theorem shift_some {r : RS} {sh : Rat} (hc : r.cycled = true) (hs : r.rah.shift = some sh) :
    shiftIfCycled r = some { r with resos := nextResos r.resos r.dmg (sh / 100), dmg := Vec.zero } := by
  simp [shiftIfCycled, hc, hs]

theorem accum_dmg_get (p ship : Vec) (tp : Rat) (r : RS) (t : Dmg) :
    (accum p ship tp r).dmg.get t = r.dmg.get t + p.get t * ship.get t * tp := Vec.get_ofFn _ t

theorem keyOf_some {r : RS} (h : ∀ t, 0 < r.resos.get t) : ∃ k, keyOf r = some k := by
  obtain ⟨a, ha⟩ := sigRound_some (h .em).ne' sigDigits
  obtain ⟨b, hb⟩ := sigRound_some (h .expl).ne' sigDigits
  obtain ⟨c, hc⟩ := sigRound_some (h .kin).ne' sigDigits
  obtain ⟨d, hd⟩ := sigRound_some (h .therm).ne' sigDigits
  simp only [Vec.get] at ha hb hc hd
  exact ⟨(r.cyc, ⟨a, d, c, b⟩), by simp only [keyOf, ha, hb, hc, hd]⟩

theorem afterTick_eq (env : Env) (before : List RS) (tp : Rat) (s : Sim) (st1 : List RS) :
    afterTick env before tp s st1 =
      (env.ship (st1.map (·.resos))).bind fun ship =>
        (mapO shiftIfCycled (st1.map (accum env.profile ship tp))).bind fun st3 =>
          (mapO keyOf st3).map fun key =>
            match s.seen.findIdx? (· == key) with
            | some i => .inl ⟨st3.map (avgFrom i), true, s.ticks + 1,
                s.frag || tickFrag before tp ship (st1.map (accum env.profile ship tp)) st3⟩
            | none => .inr ⟨st3.map snap, s.seen ++ [key], s.ticks + 1,
                s.frag || tickFrag before tp ship (st1.map (accum env.profile ship tp)) st3⟩ := by
  unfold afterTick
  cases env.ship (st1.map (·.resos)) with
  | none => rfl
  | some ship =>
    dsimp only [Option.bind_some]
    cases mapO shiftIfCycled (st1.map (accum env.profile ship tp)) with
    | none => rfl
    | some st3 =>
      dsimp only [Option.bind_some]
      cases mapO keyOf st3 with
      | none => rfl
      | some key => dsimp only [Option.map_some]; cases s.seen.findIdx? (· == key) <;> rfl

theorem noLoop_eq_some {s : Sim} {o : Out} (h : noLoop s = some o) :
    ∃ i, o.resos = s.st.map (avgFrom i) ∧ o.ticks = s.ticks := by
  unfold noLoop at h
  split at h <;> cases h
  exact ⟨_, rfl, rfl⟩

/-- The loop keeps `Forall₂ Good rahs st` for its inputs `rahs`. -/
structure Good (rah : Rah) (r : RS) : Prop where
  rah_eq : r.rah = rah
  ok : RahOK rah
  sum : r.resos.sum = rah.base.sum
  le_one : ∀ t, r.resos.get t ≤ 1
  dmg_nonneg : ∀ t, 0 ≤ r.dmg.get t
  cyc_nonneg : 0 ≤ r.cyc
  cyc_lt : ∀ d, rah.dur = some d → r.cyc < d
  snaps : ∀ s ∈ r.snaps, s.2.sum = rah.base.sum ∧ ∀ t, s.2.get t ≤ 1

theorem Good.pos {rah : Rah} {r : RS} (h : Good rah r) (t : Dmg) : 0 < r.resos.get t :=
  pos_of_sum_gt_three (h.sum ▸ h.ok.sum_gt) h.le_one t

theorem stepCycle_good {tp : Rat} {rah : Rah} {r r' : RS} (h : stepCycle tp r = some r') (hg : Good rah r)
    (htp : 0 < tp) (hle : ∀ d, r.rah.dur = some d → tp ≤ d - r.cyc) : Good rah r' := by
  obtain ⟨d, hd, rfl | ⟨hne, rfl⟩⟩ := stepCycle_cases h
  · exact { hg with cyc_nonneg := le_refl _, cyc_lt := hg.ok.dur_pos }
  · refine { hg with cyc_nonneg := add_nonneg hg.cyc_nonneg htp.le, cyc_lt := fun d' hd' => ?_ }
    obtain rfl : d = d' := Option.some.inj (hd.symm.trans (hg.rah_eq ▸ hd'))
    exact lt_of_le_of_ne (le_sub_iff_add_le'.mp (hle d hd)) hne

theorem remaining_pos {rahs : List Rah} {st : List RS} {rems : List Rat} (hg : Forall₂ Good rahs st)
    (h : mapO remaining st = some rems) {x : Rat} (hx : x ∈ rems) : 0 < x := by
  obtain ⟨r, hr, hrx⟩ := forall₂_exists_left (mapO_eq_some_iff.mp h) hx
  obtain ⟨rah, _, hgr⟩ := forall₂_exists_left hg hr
  obtain ⟨d, hd, rfl⟩ := remaining_eq_some.mp hrx
  exact sub_pos.mpr (hgr.cyc_lt d (hgr.rah_eq ▸ hd))

/-- What the loop body is handed, per hardener: a good state, and time has passed if its cycle ended (so that the
    damage it has received is not all zero when it shifts). -/
def Ready (tp : Rat) (rah : Rah) (r : RS) : Prop := Good rah r ∧ (r.cycled = true → 0 < tp)

theorem advance_good {rahs : List Rah} {st st1 : List RS} {tp : Rat} (h : advance st = some (tp, st1))
    (hg : Forall₂ Good rahs st) : 0 < tp ∧ Forall₂ (Ready tp) rahs st1 := by
  obtain ⟨rems, hrem, hmin, hst⟩ := advance_eq_some.mp h
  obtain ⟨hmem, hle⟩ := List.min?_eq_some_iff.mp hmin
  have hpos := remaining_pos hg hrem hmem
  refine ⟨hpos, forall₂_mapO hg hst fun rah r hr r' hgr hrr =>
    ⟨stepCycle_good hrr hgr hpos fun d hd => ?_, fun _ => hpos⟩⟩
  -- `tp` is the least of the remaining times
  obtain ⟨x, hx, hrx⟩ := forall₂_exists_right (mapO_eq_some_iff.mp hrem) hr
  obtain ⟨d', hd', rfl⟩ := remaining_eq_some.mp hrx
  cases hd.symm.trans hd'; exact hle _ hx

theorem accum_good {env : Env} (he : EnvOK env) {ship : Vec} (hs : ∀ t, 0 < ship.get t) {tp : Rat} (htp : 0 ≤ tp)
    {rah : Rah} {r : RS} (hg : Good rah r) (hc : r.cycled = true → 0 < tp) :
    Good rah (accum env.profile ship tp r) ∧
      ((accum env.profile ship tp r).cycled = true → ∃ t, (accum env.profile ship tp r).dmg.get t ≠ 0) := by
  refine ⟨{ hg with dmg_nonneg := fun t => ?_ }, fun hcy => ?_⟩
  · rw [accum_dmg_get]
    exact add_nonneg (hg.dmg_nonneg t) (mul_nonneg (mul_nonneg (he.prof_nonneg t) (hs t).le) htp)
  · obtain ⟨t, ht⟩ := he.prof_pos
    refine ⟨t, ?_⟩
    rw [accum_dmg_get]
    exact (add_pos_of_nonneg_of_pos (hg.dmg_nonneg t) (mul_pos (mul_pos ht (hs t)) (hc hcy))).ne'

-- From here on `nextResos` is used through `nextResos_sum` and `nextResos_le_one`. Sealed: `{ hg with .. }` below first tries
-- to be `hg` itself, which compares `r.resos` with the shifted resonances; that now fails at once instead of by evaluation.
attribute [local irreducible] nextResos

theorem shift_good {rah : Rah} {r r' : RS} (h : shiftIfCycled r = some r') (hg : Good rah r)
    (hd : r.cycled = true → ∃ t, r.dmg.get t ≠ 0) : Good rah r' := by
  cases hc : r.cycled with
  | false => rw [shift_false hc] at h; cases h; exact hg
  | true =>
    cases hs : r.rah.shift with
    | none => rw [shift_none hc hs] at h; cases h
    | some s =>
      rw [shift_some hc hs] at h; cases h
      exact { hg with
        sum := (nextResos_sum _ (hd hc)).trans hg.sum
        le_one := nextResos_le_one _ hg.le_one (div_nonneg (hg.ok.shift_nonneg s (hg.rah_eq ▸ hs)) (by norm_num))
        dmg_nonneg := fun t => (Vec.get_zero t).ge }

theorem snap_good {rah : Rah} {r : RS} (hg : Good rah r) : Good rah (snap r) :=
  { hg with snaps := fun s hs => (List.mem_append.mp hs).elim (hg.snaps s) fun hs =>
      List.mem_singleton.mp hs ▸ ⟨hg.sum, hg.le_one⟩ }

def OutOK (rahs : List Rah) (resos : List Vec) : Prop :=
  Forall₂ (fun (rah : Rah) (v : Vec) => v.sum = rah.base.sum ∧ ∀ t, v.get t ≤ 1) rahs resos

theorem avg_outOK {rahs : List Rah} {st : List RS} (hg : Forall₂ Good rahs st) (i : Nat) :
    OutOK rahs (st.map (avgFrom i)) :=
  List.forall₂_map_right_iff.mpr (hg.imp fun _ _ h => avgFrom_ok ⟨h.sum, h.le_one⟩ h.snaps)

theorem ready_init {rahs : List Rah} (h : ∀ r ∈ rahs, RahOK r) : Forall₂ (Ready 0) rahs (rahs.map RS.init) :=
  List.forall₂_map_right_iff.mpr (List.forall₂_same.mpr fun r hr =>
    ⟨⟨rfl, h r hr, rfl, (h r hr).le_one, fun t => (Vec.get_zero t).ge, le_refl _, (h r hr).dur_pos,
      fun _ hs => absurd hs List.not_mem_nil⟩, nofun⟩)

theorem shifted_good {env : Env} (he : EnvOK env) {rahs : List Rah} {tp : Rat} {st1 st3 : List RS} {ship : Vec}
    (hg : Forall₂ (Ready tp) rahs st1) (htp : 0 ≤ tp) (hship : env.ship (st1.map (·.resos)) = some ship)
    (h3 : mapO shiftIfCycled (st1.map (accum env.profile ship tp)) = some st3) : Forall₂ Good rahs st3 := by
  have hsp : ∀ t, 0 < ship.get t := he.ship_pos _ _ hship fun v hv t => by
    obtain ⟨r, hr, rfl⟩ := List.mem_map.mp hv
    obtain ⟨_, _, hgr⟩ := forall₂_exists_left hg hr
    exact hgr.1.pos t
  have h2 : Forall₂ (fun rah r => Good rah r ∧ (r.cycled = true → ∃ t, r.dmg.get t ≠ 0)) rahs
      (st1.map (accum env.profile ship tp)) :=
    List.forall₂_map_right_iff.mpr (hg.imp fun _ _ h => accum_good he hsp htp h.1 h.2)
  exact forall₂_mapO h2 h3 fun _ _ _ _ h h23 => shift_good h23 h.1 h.2

def tick (env : Env) (s : Sim) : Option (Out ⊕ Sim) :=
  (advance s.st).bind fun p => afterTick env s.st p.1 s p.2

theorem run_succ (env : Env) (n : Nat) (s : Sim) :
    run env (n + 1) s = (tick env s).bind (Sum.elim some (run env n)) := by
  rw [run, tick]
  cases advance s.st with
  | none => rfl
  | some p =>
    obtain ⟨tp, st1⟩ := p
    simp only [Option.bind_some]
    cases afterTick env s.st tp s st1 with
    | none => rfl
    | some res => cases res <;> rfl

def Sim.start (rahs : List Rah) : Sim := ⟨rahs.map RS.init, [], 0, false⟩

theorem simulate_succ (env : Env) (m : Nat) (rahs : List Rah) :
    simulate env (m + 1) rahs =
      (afterTick env [] 0 (Sim.start rahs) (Sim.start rahs).st).bind (Sum.elim some (run env m)) := by
  simp only [simulate, Sim.start]
  cases afterTick env [] 0 ⟨rahs.map RS.init, [], 0, false⟩ (rahs.map RS.init) with
  | none => rfl
  | some res => cases res <;> rfl

/-- A pass of the loop (`afterTick` on the start state, or `tick`) fails, ends the run or hands on a state:
    `Q` of the outcome in the first two cases, `I` of the state in the third. -/
def Step (I : Sim → Prop) (Q : Option Out → Prop) : Option (Out ⊕ Sim) → Prop
  | none => Q none
  | some (.inl o) => Q (some o)
  | some (.inr s) => I s

theorem Step.bind {I : Sim → Prop} {Q : Option Out → Prop} {x : Option (Out ⊕ Sim)} (h : Step I Q x)
    {k : Sim → Option Out} (hk : ∀ s, I s → Q (k s)) : Q (x.bind (Sum.elim some k)) := by
  match x, h with
  | none, h => exact h
  | some (.inl _), h => exact h
  | some (.inr s), h => exact hk s h

/-- A step proved for some `Q` is reused for `Q := isSome` once the pass is known not to fail: of the old step only
    the part about the state handed on is kept. -/
theorem Step.of_isSome {I : Sim → Prop} {Q : Option Out → Prop} {x : Option (Out ⊕ Sim)} (hx : x.isSome)
    (h : Step I Q x) : Step I (fun y => y.isSome) x := by
  match x, hx, h with
  | some (.inl _), _, _ => rfl
  | some (.inr _), _, h => exact h

theorem Step.of_bind {I : Sim → Prop} {Q : Option Out → Prop} {α : Type} {x : Option α} {f : α → Option (Out ⊕ Sim)}
    (hnone : Q none) (h : ∀ a, x = some a → Step I Q (f a)) : Step I Q (x.bind f) := by
  cases x with
  | none => exact hnone
  | some a => exact h a rfl

theorem step_afterTick {I : Sim → Prop} {Q : Option Out → Prop} {env : Env} {before : List RS} {tp : Rat} {s : Sim}
    {st1 : List RS} (hnone : Q none)
    (h : ∀ ship st3 key fr, env.ship (st1.map (·.resos)) = some ship →
      mapO shiftIfCycled (st1.map (accum env.profile ship tp)) = some st3 → mapO keyOf st3 = some key →
      (∀ i, Q (some ⟨st3.map (avgFrom i), true, s.ticks + 1, fr⟩)) ∧
        I ⟨st3.map snap, s.seen ++ [key], s.ticks + 1, fr⟩) :
    Step I Q (afterTick env before tp s st1) := by
  rw [afterTick_eq]
  refine .of_bind hnone fun ship h1 => .of_bind hnone fun st3 h2 => ?_
  cases h3 : mapO keyOf st3 with
  | none => exact hnone
  | some key =>
    obtain ⟨hQ, hI⟩ := h ship st3 key _ h1 h2 h3
    dsimp only [Option.map_some]
    split
    · exact hQ _
    · exact hI

/-- Induction over a run. `I n s`: invariant of a state with `n` passes left; `Q`: what is to be shown of the outcome.
    `start`: the invariant holds at the start; `noLoop`: the exit without a loop; `first` / `next`: the first pass (which
    skips the tick iterator) and every later one are `Step`s from `n + 1` to `n` passes left. -/
theorem simulate_induct {env : Env} {maxT : Nat} {rahs : List Rah} {I : Nat → Sim → Prop} {Q : Option Out → Prop}
    (start : I maxT (Sim.start rahs)) (noLoop : ∀ s, I 0 s → Q (noLoop s))
    (first : ∀ m, I (m + 1) (Sim.start rahs) →
      Step (I m) Q (afterTick env [] 0 (Sim.start rahs) (Sim.start rahs).st))
    (next : ∀ n s, I (n + 1) s → Step (I n) Q (tick env s)) : Q (simulate env maxT rahs) := by
  have hrun : ∀ n s, I n s → Q (run env n s) := by
    intro n
    induction n with
    | zero => exact noLoop
    | succ n ih => intro s h; rw [run_succ]; exact (next n s h).bind ih
  cases maxT with
  | zero => exact noLoop _ start
  | succ m => rw [simulate_succ]; exact (first m start).bind (hrun m)

/-- Every pass counts one tick, and there are at most `maxT` passes: for any inputs whatever. -/
theorem simulate_ticks_le {env : Env} {maxT : Nat} {rahs : List Rah} {o : Out}
    (h : simulate env maxT rahs = some o) : o.ticks ≤ maxT := by
  refine simulate_induct (I := fun n s => s.ticks + n ≤ maxT) (Q := fun x => ∀ o, x = some o → o.ticks ≤ maxT)
    (Nat.le_of_eq (Nat.zero_add _)) (fun s hs o ho => ?_) (fun m hn => ?_) (fun n s hn => .of_bind nofun fun p _ => ?_)
    o h
  · obtain ⟨_, _, ht⟩ := noLoop_eq_some ho; exact ht ▸ hs
  all_goals
    -- the tick counted now is one of the passes that were left
    have hn' := Nat.succ_add_eq_add_succ .. ▸ hn
    exact step_afterTick nofun fun _ _ _ _ _ _ _ => ⟨fun i o ho => Option.some.inj ho ▸ Nat.le_of_add_right_le hn', hn'⟩

abbrev GoodStep (rahs : List Rah) : Option (Out ⊕ Sim) → Prop :=
  Step (fun s => Forall₂ Good rahs s.st) (fun x => ∀ o, x = some o → OutOK rahs o.resos)

theorem afterTick_good {env : Env} (he : EnvOK env) {rahs : List Rah} {before st1 : List RS} {tp : Rat} {s : Sim}
    (hg : Forall₂ (Ready tp) rahs st1) (htp : 0 ≤ tp) : GoodStep rahs (afterTick env before tp s st1) :=
  step_afterTick nofun fun _ _ _ _ h1 h2 _ =>
    have hg3 := shifted_good he hg htp h1 h2
    ⟨fun i o ho => by cases ho; exact avg_outOK hg3 i, List.forall₂_map_right_iff.mpr (hg3.imp fun _ _ => snap_good)⟩

theorem tick_good {env : Env} (he : EnvOK env) {rahs : List Rah} {s : Sim} (hg : Forall₂ Good rahs s.st) :
    GoodStep rahs (tick env s) :=
  .of_bind nofun fun _ hadv =>
    have ⟨htp, hg1⟩ := advance_good hadv hg
    afterTick_good he hg1 htp.le

theorem simulate_good {env : Env} (he : EnvOK env) {maxT : Nat} {rahs : List Rah} (hr : ∀ r ∈ rahs, RahOK r)
    {o : Out} (h : simulate env maxT rahs = some o) : OutOK rahs o.resos := by
  refine simulate_induct (I := fun _ s => Forall₂ Good rahs s.st) ((ready_init hr).imp fun _ _ h => h.1)
    (fun s hs o ho => ?_) (fun _ _ => afterTick_good he (ready_init hr) le_rfl) (fun _ _ => tick_good he) o h
  obtain ⟨i, hi, _⟩ := noLoop_eq_some ho
  exact hi ▸ avg_outOK hs i

theorem advance_some {rahs : List Rah} {st : List RS} (hne : rahs ≠ []) (hg : Forall₂ Good rahs st)
    (hf : ∀ r ∈ rahs, RahFull r) : ∃ p, advance st = some p := by
  have hgf := (List.forall₂_and_left ..).mpr ⟨hf, hg⟩
  obtain ⟨rems, hrems⟩ := exists_mapO_eq_some (f := remaining) (fun rah r h => by
    obtain ⟨d, hd, _⟩ := h.1.dur
    exact ⟨_, remaining_eq_some.mpr ⟨d, h.2.rah_eq ▸ hd, rfl⟩⟩) hgf
  obtain ⟨m, hm⟩ : ∃ m, rems.min? = some m := by
    cases rems with
    | nil => cases List.forall₂_nil_right_iff.mp (mapO_eq_some_iff.mp hrems); cases hg; exact absurd rfl hne
    | cons a l => exact ⟨_, List.min?_cons⟩
  have hmpos := remaining_pos hg hrems (List.min?_eq_some_iff.mp hm).1
  obtain ⟨st', hst'⟩ := exists_mapO_eq_some (f := stepCycle m) (fun rah r h => by
    obtain ⟨d, hd, hdpos⟩ := h.1.dur
    exact stepCycle_some (h.2.rah_eq ▸ hd) hdpos.ne' (add_pos_of_nonneg_of_pos h.2.cyc_nonneg hmpos).ne') hgf
  exact ⟨(m, st'), advance_eq_some.mpr ⟨rems, hrems, hm, hst'⟩⟩

theorem afterTick_some {env : Env} (he : EnvFull env) {rahs : List Rah} {before st1 : List RS} {tp : Rat} {s : Sim}
    (hg : Forall₂ (Ready tp) rahs st1) (hf : ∀ r ∈ rahs, RahFull r) (htp : 0 ≤ tp) :
    (afterTick env before tp s st1).isSome := by
  obtain ⟨ship, hship⟩ := he.total (st1.map (·.resos))
  have h2 : Forall₂ (fun rah r => RahFull rah ∧ r.rah = rah) rahs (st1.map (accum env.profile ship tp)) :=
    List.forall₂_map_right_iff.mpr (((List.forall₂_and_left ..).mpr ⟨hf, hg⟩).imp fun _ _ h => ⟨h.1, h.2.1.rah_eq⟩)
  obtain ⟨st3, h3⟩ := exists_mapO_eq_some (f := shiftIfCycled) (fun rah r h => by
    obtain ⟨sh, hsh, _⟩ := h.1.shift
    cases hcy : r.cycled with
    | false => exact ⟨_, shift_false hcy⟩
    | true => exact ⟨_, shift_some hcy (h.2 ▸ hsh)⟩) h2
  obtain ⟨key, hk⟩ := exists_mapO_eq_some (f := keyOf) (fun _ _ h => keyOf_some h.pos) (shifted_good he.ok hg htp hship h3)
  rw [afterTick_eq, hship, Option.bind_some, h3, Option.bind_some, hk]; rfl

theorem exhaustion_some {r : Rah} (h : RahFull r) : ∃ e, exhaustion r = some e := by
  obtain ⟨s, hs, hpos⟩ := h.shift
  simp only [exhaustion, hs, if_neg (div_pos hpos (by norm_num : (0 : Rat) < 100)).ne']
  exact ⟨_, rfl⟩

theorem argmaxFirst_some {α : Type} (key : α → Rat) (a : α) (l : List α) : ∃ b, argmaxFirst key (a :: l) = some b := by
  unfold argmaxFirst
  split
  · exact ⟨_, rfl⟩
  · split <;> exact ⟨_, rfl⟩

theorem noLoop_some {rahs : List Rah} {s : Sim} (hne : rahs ≠ []) (hg : Forall₂ Good rahs s.st)
    (hf : ∀ r ∈ rahs, RahFull r) : (noLoop s).isSome := by
  obtain ⟨l, hl⟩ := exists_mapO_eq_some (f := exhKey) (fun rah r h => by
    obtain ⟨e, he⟩ := exhaustion_some h.1
    obtain ⟨d, hd, _⟩ := h.1.dur
    exact ⟨(r, e, (e : Rat) * d), by simp only [exhKey, h.2.rah_eq, he, hd]⟩) ((List.forall₂_and_left ..).mpr ⟨hf, hg⟩)
  obtain ⟨x, hx⟩ : ∃ x, argmaxFirst (fun x : RS × Int × Rat => x.2.2) l = some x := by
    cases l with
    | nil => cases List.forall₂_nil_right_iff.mp (mapO_eq_some_iff.mp hl) ▸ hg; exact absurd rfl hne
    | cons a l => exact argmaxFirst_some _ a l
  obtain ⟨r, e, k⟩ := x
  by_cases hz : ((e : Rat) * 3 / 2).ceil = 0 <;> simp only [noLoop, estimate, hl, hx, hz, reduceIte] <;> rfl

theorem simulate_some {env : Env} (he : EnvFull env) (maxT : Nat) {rahs : List Rah} (hne : rahs ≠ [])
    (hr : ∀ r ∈ rahs, RahFull r) : (simulate env maxT rahs).isSome := by
  have hok := fun r h => (hr r h).ok
  refine simulate_induct (I := fun _ s => Forall₂ Good rahs s.st) (Q := fun x => x.isSome)
    ((ready_init hok).imp fun _ _ h => h.1) (fun s hs => noLoop_some hne hs hr)
    (fun _ _ => .of_isSome (afterTick_some he (ready_init hok) hr le_rfl) (afterTick_good he.ok (ready_init hok) le_rfl))
    fun _ s hg => .of_isSome ?_ (tick_good he.ok hg)
  obtain ⟨⟨tp, st1⟩, hadv⟩ := advance_some hne hg hr
  obtain ⟨htp, hg1⟩ := advance_good hadv hg
  rw [tick, hadv]; exact afterTick_some he hg1 hr htp.le

theorem getResults_fst (f : List Vec → Option Vec) (p : Vec) (maxT : Nat) (rahs : List Rah) :
    (getResults (some f) p maxT rahs).1 =
      ((simulate ⟨f, p⟩ maxT rahs).map (·.resos)).getD (rahs.map (·.base)) := by
  simp only [getResults]; cases simulate ⟨f, p⟩ maxT rahs <;> rfl

theorem getResults_outcome (f : List Vec → Option Vec) (p : Vec) (maxT : Nat) (rahs : List Rah) :
    (getResults (some f) p maxT rahs).2.1 = if (simulate ⟨f, p⟩ maxT rahs).isSome then .ok else .failed := by
  simp only [getResults]; cases simulate ⟨f, p⟩ maxT rahs <;> rfl

end Eos.Rah
