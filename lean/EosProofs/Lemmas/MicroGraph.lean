import EosProofs.Lemmas.MicroBasic
import EosProofs.Lemmas.DepCache
/-! `graphOf` (dependencies with metadata) needs no uniqueness of item ids: `item?` / `attrMeta?` pick the first
entry with an id, and nodes are ids; `graphOfV` (skill levels left out as well) does.  *Every* dynamic state has a
ranked graph: the warfare-buff payload `Dyn.bspecs` enters the specs only through `bspecOK` (source = a
warfare-buff attribute, target = the target of a buff template), and `rankWF` ranks exactly those reads
(`spec_reads`). -/
namespace Eos.Micro
open Eos.World

variable {u : Universe} {cfg : Config} {d : Dyn}

theorem readerOf_override (f : Node → Option Rat) {y : Item} {a : Int}
    (hov : (y.kind == .skill && a == 280) = true) :
    readerOf u f y a = match y.level with | some l => .ok l | none => .absent := if_pos hov

theorem readerOf_nometa (f : Node → Option Rat) {y : Item} {a : Int}
    (hov : ¬ (y.kind == .skill && a == 280) = true) (ha : attrMeta? u a = none) : readerOf u f y a = .absent := by
  unfold readerOf; rw [if_neg hov, if_pos (by rw [ha]; rfl)]

theorem readerOf_node (f : Node → Option Rat) {y : Item} {a : Int} {am : AttrMeta}
    (hov : ¬ (y.kind == .skill && a == 280) = true) (ha : attrMeta? u a = some am) :
    readerOf u f y a = match f (y.id, a) with | some v => .ok v | none => .absent := by
  unfold readerOf; rw [if_neg hov, if_neg (by rw [ha]; simp)]; rfl

theorem readerOf_congr {f g : Node → Option Rat} {y : Item} {a : Int}
    (h : (attrMeta? u a).isSome = true → f (y.id, a) = g (y.id, a)) :
    readerOf u f y a = readerOf u g y a := by
  by_cases hov : (y.kind == .skill && a == 280) = true
  · rw [readerOf_override f hov, readerOf_override g hov]
  · cases ha : attrMeta? u a with
    | none => rw [readerOf_nometa f hov ha, readerOf_nometa g hov ha]
    | some am => rw [readerOf_node f hov ha, readerOf_node g hov ha, h (by rw [ha]; rfl)]

theorem readerOf_item (f : Node → Option Rat) {y y' : Item} (a : Int) (hi : y.id = y'.id)
    (hk : y.kind = y'.kind) (hl : y.level = y'.level) : readerOf u f y a = readerOf u f y' a := by
  unfold readerOf; rw [hi, hk, hl]

theorem readerOf_ok_or_absent (f : Node → Option Rat) (y : Item) (a : Int) :
    readerOf u f y a = .absent ∨ ∃ v, readerOf u f y a = .ok v := by
  by_cases hov : (y.kind == .skill && a == 280) = true
  · rw [readerOf_override f hov]; cases y.level <;> simp
  · cases ha : attrMeta? u a with
    | none => exact .inl (readerOf_nometa f hov ha)
    | some am => rw [readerOf_node f hov ha]; cases f (y.id, a) <;> simp

theorem mem_depsM {n m : Node} : m ∈ depsM u cfg d n ↔ m ∈ deps u cfg d n ∧ (attrMeta? u m.2).isSome = true := by
  simp [depsM]

/-- A skill's level is answered by the item (override callback); the real code never stores it in the attribute
cache. -/
def valued (u : Universe) (cfg : Config) (m : Node) : Bool :=
  (attrMeta? u m.2).isSome &&
    !(match item? cfg m.1 with | some y => y.kind == .skill && m.2 == 280 | none => false)

def depsV (u : Universe) (cfg : Config) (d : Dyn) (n : Node) : List Node := (deps u cfg d n).filter (valued u cfg)

theorem mem_depsV {n m : Node} : m ∈ depsV u cfg d n ↔ m ∈ deps u cfg d n ∧ valued u cfg m = true := by
  simp [depsV]

theorem readerOf_congr_valued (hc : UniqueIds cfg) {f g : Node → Option Rat} {y : Item} (hy : y ∈ cfg.items)
    {a : Int} (h : valued u cfg (y.id, a) = true → f (y.id, a) = g (y.id, a)) :
    readerOf u f y a = readerOf u g y a := by
  by_cases hov : (y.kind == .skill && a == 280) = true
  · rw [readerOf_override f hov, readerOf_override g hov]
  · refine readerOf_congr fun hmeta => h ?_
    simp only [valued, item?_of_mem hc hy, hmeta, hov, Bool.not_false, Bool.and_self]

theorem evalD_local_keep (keep : Node → Bool)
    (hk : ∀ y ∈ cfg.items, ∀ (a : Int) (f g : Node → Option Rat),
      (keep (y.id, a) = true → f (y.id, a) = g (y.id, a)) → readerOf u f y a = readerOf u g y a)
    (immune limited : List Int) (pen : Nat → Rat) (n : Node) (f g : Node → Option Rat)
    (h : ∀ m, m ∈ (deps u cfg d n).filter keep → f m = g m) :
    evalD u cfg d immune limited pen n f = evalD u cfg d immune limited pen n g := by
  unfold evalD
  cases hx : item? cfg n.1 with
  | none => rfl
  | some x =>
    cases ha : attrMeta? u n.2 with
    | none => rfl
    | some am =>
      exact congrArg valToOption (valueOfD_congr_deps hx ha fun y hy a hm =>
        hk y hy a f g fun hkeep => h _ (List.mem_filter.2 ⟨hm, hkeep⟩))

theorem evalD_localM (immune limited : List Int) (pen : Nat → Rat) (n : Node) (f g : Node → Option Rat)
    (h : ∀ m, m ∈ depsM u cfg d n → f m = g m) :
    evalD u cfg d immune limited pen n f = evalD u cfg d immune limited pen n g :=
  evalD_local_keep _ (fun _ _ _ _ _ hfg => readerOf_congr hfg) immune limited pen n f g h

theorem evalD_localV (hc : UniqueIds cfg) (immune limited : List Int) (pen : Nat → Rat) (n : Node)
    (f g : Node → Option Rat) (h : ∀ m, m ∈ depsV u cfg d n → f m = g m) :
    evalD u cfg d immune limited pen n f = evalD u cfg d immune limited pen n g :=
  evalD_local_keep _ (fun _ hy _ _ _ hfg => readerOf_congr_valued hc hy hfg) immune limited pen n f g h

theorem evalD_local (immune limited : List Int) (pen : Nat → Rat) (n : Node) (f g : Node → Option Rat)
    (h : ∀ m, m ∈ deps u cfg d n → f m = g m) :
    evalD u cfg d immune limited pen n f = evalD u cfg d immune limited pen n g :=
  evalD_localM immune limited pen n f g fun m hm => h m (mem_depsM.1 hm).1

theorem deps_readable {n m : Node} (hm : m ∈ deps u cfg d n) :
    ∃ am, attrMeta? u n.2 = some am ∧ m.2 ∈ readable u am := by
  obtain ⟨x, am, tx, _, ha, _, hcase⟩ := deps_mem hm
  refine ⟨am, ha, ?_⟩
  rcases hcase with ⟨s, hsp, hm⟩ | ⟨hmx, _⟩
  · obtain ⟨⟨_, hsa⟩, htgt, _⟩ := mem_specsOn.1 hsp
    refine List.mem_append_right _ (htgt ▸ ?_)
    rcases hm with rfl | ⟨c, r, hr, rfl⟩
    · exact (spec_reads hsa).1
    · exact (spec_reads hsa).2 r (resistRead_some hr).1 (resistRead_some hr).2.1
  · exact List.mem_append_left _ (by simp [hmx])

theorem deps_rank_lt (hwf : rankWF u = true) {n m : Node} (hm : m ∈ deps u cfg d n)
    (hmeta : (attrMeta? u m.2).isSome = true) : rankOf u m < rankOf u n := by
  obtain ⟨am, ha, hr⟩ := deps_readable hm
  exact rank_lt_of_readable hwf ha hmeta hr

theorem depsM_rank_lt (hwf : rankWF u = true) {n m : Node} (hm : m ∈ depsM u cfg d n) :
    rankOf u m < rankOf u n :=
  deps_rank_lt hwf (mem_depsM.1 hm).1 (mem_depsM.1 hm).2

theorem depsV_rank_lt (hwf : rankWF u = true) {n m : Node} (hm : m ∈ depsV u cfg d n) :
    rankOf u m < rankOf u n := by
  obtain ⟨h1, h2⟩ := mem_depsV.1 hm
  simp only [valued, Bool.and_eq_true] at h2
  exact deps_rank_lt hwf h1 h2.1

def graphOf (u : Universe) (immune limited : List Int) (pen : Nat → Rat) (hwf : rankWF u = true)
    (c : Config × Dyn) : Eos.DepCache.Graph Node Rat where
  deps := depsM u c.1 c.2
  eval := evalD u c.1 c.2 immune limited pen
  rank := rankOf u
  acyclic := fun _ _ hm => depsM_rank_lt hwf hm
  eval_local := evalD_localM immune limited pen

@[simp] theorem graphOf_deps (immune limited : List Int) (pen : Nat → Rat) (hwf : rankWF u = true)
    (c : Config × Dyn) : (graphOf u immune limited pen hwf c).deps = depsM u c.1 c.2 := rfl

@[simp] theorem graphOf_eval (immune limited : List Int) (pen : Nat → Rat) (hwf : rankWF u = true)
    (c : Config × Dyn) : (graphOf u immune limited pen hwf c).eval = evalD u c.1 c.2 immune limited pen := rfl

@[simp] theorem graphOf_rank (immune limited : List Int) (pen : Nat → Rat) (hwf : rankWF u = true)
    (c : Config × Dyn) : (graphOf u immune limited pen hwf c).rank = rankOf u := rfl

/-- The same state with the override nodes (skill levels) left out of the dependency lists, so that a
dependency-closed cache need not hold them; needs items to be identified by their ids. -/
def graphOfV (u : Universe) (immune limited : List Int) (pen : Nat → Rat) (hwf : rankWF u = true)
    (c : Config × Dyn) (hc : UniqueIds c.1) : Eos.DepCache.Graph Node Rat where
  deps := depsV u c.1 c.2
  eval := evalD u c.1 c.2 immune limited pen
  rank := rankOf u
  acyclic := fun _ _ hm => depsV_rank_lt hwf hm
  eval_local := evalD_localV hc immune limited pen

@[simp] theorem graphOfV_deps (immune limited : List Int) (pen : Nat → Rat) (hwf : rankWF u = true)
    (c : Config × Dyn) (hc : UniqueIds c.1) :
    (graphOfV u immune limited pen hwf c hc).deps = depsV u c.1 c.2 := rfl

@[simp] theorem graphOfV_eval (immune limited : List Int) (pen : Nat → Rat) (hwf : rankWF u = true)
    (c : Config × Dyn) (hc : UniqueIds c.1) :
    (graphOfV u immune limited pen hwf c hc).eval = evalD u c.1 c.2 immune limited pen := rfl

@[simp] theorem graphOfV_rank (immune limited : List Int) (pen : Nat → Rat) (hwf : rankWF u = true)
    (c : Config × Dyn) (hc : UniqueIds c.1) : (graphOfV u immune limited pen hwf c hc).rank = rankOf u := rfl

/-! ## Non-vacuity: the two-item world of `Lemmas/CalcWorld.lean` in its settled state -/

example : rankWF exUniverse = true := by decide +kernel
example : deps exUniverse exConfig (derivedDyn exUniverse exConfig) (1, 37) = [(2, 20)] := by decide +kernel
example : evalD exUniverse exConfig (derivedDyn exUniverse exConfig) specImmune specLimited (fun _ => 1) (1, 37)
    (fun n => if n = (2, 20) then some (3/2) else none) = some 150 := by decide +kernel
example : Eos.DepCache.spec (graphOf exUniverse specImmune specLimited (fun _ => 1) (by decide)
    (exConfig, derivedDyn exUniverse exConfig)) (1, 37) = some 150 := by decide +kernel

end Eos.Micro
