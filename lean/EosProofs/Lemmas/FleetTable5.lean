import EosGen.FleetTable5
namespace Eos.C13
open Eos.AffectsSpec EosGen.FleetTable

theorem fleet_block5_ok : fleetBlockOk blockF5 blockF5Cases blockF5Boosted = true := by decide +kernel

end Eos.C13
