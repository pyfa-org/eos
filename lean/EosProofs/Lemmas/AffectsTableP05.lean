import EosGen.AffectsTableP05
namespace Eos.C02
open Eos.AffectsSpec EosGen.AffectsTable

theorem affects_blockP05_ok : projBlockOk blockP05 blockP05Cases blockP05Modified blockP05Valid = true := by decide +kernel

end Eos.C02
