import EosModel.EffectStatus
import EosProofs.Lemmas.ListFacts
/-! C05: the item state machine of `EosModel/EffectStatus.lean`. The invariant `Holder.Ok` says the same of the
item's core and of its charge's, so it is proved per core (`CoreOk`) and mapped over both (`All.map`). -/
namespace Eos.C05
open Eos.EffectStatus

theorem getMode_filter_ne (modes : List (Nat × Nat)) (e x : Nat) (h : x ≠ e) :
    getMode (modes.filter (·.1 != e)) x = getMode modes x := by
  unfold getMode
  rw [List.find?_filter]
  congr 2
  funext a
  by_cases ha : a.1 = x
  · simp [ha, h]
  · simp [ha]

theorem getMode_filter_self (modes : List (Nat × Nat)) (e : Nat) :
    getMode (modes.filter (·.1 != e)) e = defaultMode := by
  unfold getMode
  have : (modes.filter (·.1 != e)).find? (·.1 == e) = none := by
    simp [List.find?_eq_none]
  rw [this]

/-- The step of `setModes` (which has no name of its own); also when the mode is the default, which deletes the entry. -/
theorem getMode_set1 (modes : List (Nat × Nat)) (e m x : Nat) :
    getMode (if m == defaultMode then modes.filter (·.1 != e) else (e, m) :: modes.filter (·.1 != e)) x =
      if x = e then m else getMode modes x := by
  by_cases hx : x = e
  · subst hx
    by_cases hm : m = defaultMode
    · simp [hm, getMode_filter_self]
    · simp [hm, getMode]
  · have hne : (e == x) = false := by simpa using fun h : e = x => hx h.symm
    rw [if_neg hx, ← getMode_filter_ne modes e x hx]
    split
    · rfl
    · simp [getMode, List.find?, hne]

theorem getMode_setModes : ∀ (ms : List (Nat × Nat)) (modes : List (Nat × Nat)) (x : Nat),
    (ms.map (·.1)).Nodup →
    getMode (setModes modes ms) x = (match ms.find? (·.1 == x) with | some p => p.2 | none => getMode modes x) := by
  intro ms
  induction ms with
  | nil => intro modes x _; rfl
  | cons p ps ih =>
    intro modes x hn
    obtain ⟨e, m⟩ := p
    simp only [List.map_cons, List.nodup_cons] at hn
    rw [setModes, ih _ x hn.2, getMode_set1, List.find?_cons]
    by_cases hx : x = e
    · subst hx
      have hnone : ps.find? (·.1 == x) = none :=
        List.find?_eq_none.2 fun q hq hqe => hn.1 (List.mem_map.2 ⟨q, hq, by simpa using hqe⟩)
      simp [hnone]
    · have hne : (e == x) = false := by simpa using fun h : e = x => hx h.symm
      simp [hne, hx]

theorem find_of_mem {t : TypeDef} (hwf : t.WF) {ed : EffectDef} (h : ed ∈ t.effects) :
    t.effects.find? (·.id == ed.id) = some ed := find?_key_eq_some (·.id) hwf.1 h

theorem resolve_nodup {c : Core} (st : State) (hwf : ∀ t, c.type = some t → t.WF) : (c.resolve st).Nodup := by
  unfold Core.resolve
  cases ht : c.type with
  | none => simp
  | some t => exact ((hwf t ht).1.sublist (List.Sublist.map _ List.filter_sublist))

theorem mem_resolve {c : Core} {t : TypeDef} (ht : c.type = some t) (st : State) (e : Nat) :
    e ∈ c.resolve st ↔ ∃ ed ∈ t.effects, ed.id = e ∧ t.status c.modes st ed = true := by
  simp only [Core.resolve, ht, List.mem_map, List.mem_filter]
  constructor
  · rintro ⟨ed, ⟨h1, h2⟩, rfl⟩; exact ⟨ed, h1, rfl, h2⟩
  · rintro ⟨ed, h1, rfl, h2⟩; exact ⟨ed, ⟨h1, h2⟩, rfl⟩

theorem resolve_unloaded {c : Core} (h : c.type = none) (st : State) : c.resolve st = [] := by
  simp [Core.resolve, h]

theorem good_unloaded {c : Core} (h : c.type = none) (hr : c.running = []) (st : State) : c.Good st := by
  simp [Core.Good, resolve_unloaded h, hr]

theorem good_running_nil {c : Core} {st : State} (g : c.Good st) (h : c.type = none) : c.running = [] := by
  apply List.eq_nil_iff_forall_not_mem.2
  intro e he
  have := (g.1 e).1 he
  simp [resolve_unloaded h] at this

/-- "running = decision" with the decision visible; nothing runs on an unloaded core. -/
theorem good_spec {c : Core} {st : State} (g : c.Good st) :
    (∀ e, e ∈ c.running ↔
      ∃ t, c.type = some t ∧ ∃ ed ∈ t.effects, ed.id = e ∧ t.status c.modes st ed = true) ∧ c.running.Nodup := by
  refine ⟨fun e => ?_, g.2⟩
  rw [g.1 e]
  cases ht : c.type with
  | none => simp [resolve_unloaded ht]
  | some t => simp [mem_resolve ht]

theorem mem_startIds (c : Core) (st : State) (e : Nat) :
    e ∈ c.startIds st ↔ e ∈ c.resolve st ∧ e ∉ c.running := by
  simp [Core.startIds]

theorem mem_stopIds (c : Core) (st : State) (e : Nat) :
    e ∈ c.stopIds st ↔ e ∈ c.running ∧ e ∉ c.resolve st := by
  simp [Core.stopIds]

theorem update_fields (c : Core) (st : State) :
    (c.update st).type = c.type ∧ (c.update st).modes = c.modes ∧ (c.update st).typeId = c.typeId := by
  simp [Core.update]

theorem resolve_update (c : Core) (st st' : State) : (c.update st).resolve st' = c.resolve st' := by
  simp [Core.resolve, Core.update]

theorem mem_update_running (c : Core) (st : State) (e : Nat) :
    e ∈ (c.update st).running ↔ e ∈ c.resolve st := by
  simp only [Core.update, List.mem_filter, List.mem_append, mem_startIds, Bool.not_eq_true',
    List.contains_eq_mem, decide_eq_false_iff_not, mem_stopIds]
  constructor
  · rintro ⟨h | h, hn⟩
    · exact Classical.byContradiction fun hc => hn ⟨h, hc⟩
    · exact h.1
  · intro h
    refine ⟨?_, fun hh => hh.2 h⟩
    by_cases hr : e ∈ c.running
    · exact Or.inl hr
    · exact Or.inr ⟨h, hr⟩

theorem update_good (c : Core) (st : State) (hn : c.running.Nodup) (hwf : ∀ t, c.type = some t → t.WF) :
    (c.update st).Good st := by
  refine ⟨fun e => by rw [mem_update_running, resolve_update], ?_⟩
  simp only [Core.update]
  refine List.Nodup.sublist List.filter_sublist ?_
  apply List.nodup_append.2
  refine ⟨hn, List.Nodup.sublist List.filter_sublist (resolve_nodup st hwf), ?_⟩
  intro a ha b hb hab
  subst hab
  exact ((mem_startIds c st a).1 hb).2 ha

theorem unload_fields (c : Core) :
    c.unload.type = none ∧ c.unload.modes = c.modes ∧ c.unload.typeId = c.typeId := by
  unfold Core.unload
  cases h : c.type <;> simp [h]

theorem unload_running (c : Core) (h : c.type = none → c.running = []) : c.unload.running = [] := by
  unfold Core.unload
  cases ht : c.type with
  | none => simpa using h ht
  | some t => simp

/-- What `Holder.Ok` says of the item's core and of its charge's. -/
def CoreOk (src : Option Source) (onFit : Bool) (st : State) (c : Core) : Prop :=
  (c.type = if onFit then Source.type? src c.typeId else none) ∧ c.Good st

/-- Unloaded and running nothing: what a core is off the fit, and between unload and load. -/
def Clean (c : Core) : Prop := c.type = none ∧ c.running = []

theorem core_wf {src : Option Source} {onFit : Bool} {c : Core} (hs : SrcWF src)
    (ht : c.type = if onFit then Source.type? src c.typeId else none) : ∀ t, c.type = some t → t.WF := by
  intro t h
  rw [ht] at h
  cases onFit with
  | false => simp at h
  | true => exact hs _ _ (by simpa using h)

theorem CoreOk.of_clean {src : Option Source} {st : State} {c : Core} (h : Clean c) : CoreOk src false st c :=
  ⟨by simp [h.1], good_unloaded h.1 h.2 st⟩

theorem CoreOk.clean {src : Option Source} {st : State} {c : Core} (h : CoreOk src false st c) : Clean c :=
  have h1 : c.type = none := by simpa using h.1
  ⟨h1, good_running_nil h.2 h1⟩

theorem CoreOk.unload {src : Option Source} {b : Bool} {st : State} {c : Core} (h : CoreOk src b st c) :
    Clean c.unload :=
  ⟨(unload_fields c).1, unload_running c (good_running_nil h.2)⟩

theorem CoreOk.update {src : Option Source} (hs : SrcWF src) {b : Bool} {c : Core}
    (ht : c.type = if b then Source.type? src c.typeId else none) (hn : c.running.Nodup) (st : State) :
    CoreOk src b st (c.update st) := by
  obtain ⟨f1, _, f3⟩ := update_fields c st
  exact ⟨by rw [f1, f3]; exact ht, update_good c st hn (core_wf hs ht)⟩

theorem CoreOk.load {src : Option Source} (hs : SrcWF src) {c : Core} (st : State) (h : Clean c) :
    CoreOk src true st (c.load (Source.type? src c.typeId) st) := by
  cases ht : Source.type? src c.typeId with
  | none => exact ⟨by simpa [Core.load, ht] using h.1, good_unloaded h.1 h.2 st⟩
  | some t => exact CoreOk.update hs (c := { c with type := some t }) (by simp [ht]) (by simp [h.2]) st

theorem CoreOk.setModes {src : Option Source} (hs : SrcWF src) {b : Bool} {st : State} {c : Core}
    (h : CoreOk src b st c) (ms : List (Nat × Nat)) : CoreOk src b st (c.setModes ms b st) := by
  cases b with
  | true => exact CoreOk.update hs (c := { c with modes := EffectStatus.setModes c.modes ms }) h.1 h.2.2 st
  | false => exact .of_clean h.clean

theorem CoreOk.stateChanged {src : Option Source} (hs : SrcWF src) {b : Bool} {st0 : State} {c : Core}
    (h : CoreOk src b st0 c) (st : State) : CoreOk src b st (c.stateChanged st) := by
  cases ht : c.type with
  | none =>
    rw [show c.stateChanged st = c by simp [Core.stateChanged, ht]]
    exact ⟨h.1, good_unloaded ht (good_running_nil h.2 ht) st⟩
  | some t =>
    rw [show c.stateChanged st = c.update st by simp [Core.stateChanged, ht]]
    exact CoreOk.update hs h.1 h.2.2 st

def All (P : Core → Prop) (c : Core) (ch : Option Core) : Prop := P c ∧ ∀ c', ch = some c' → P c'

theorem ok_iff {src : Option Source} {h : Holder} :
    Holder.Ok src h ↔ All (CoreOk src h.onFit h.state) h.core h.charge :=
  ⟨fun ⟨a, b, c⟩ => ⟨⟨a, b⟩, c⟩, fun ⟨⟨a, b⟩, c⟩ => ⟨a, b, c⟩⟩

theorem forall_map {P Q : Core → Prop} {o : Option Core} {f : Core → Core} (h : ∀ c, o = some c → P c)
    (hf : ∀ c, P c → Q (f c)) : ∀ c', o.map f = some c' → Q c' := by
  intro c' hc'
  obtain ⟨c, hc, rfl⟩ := Option.map_eq_some_iff.1 hc'
  exact hf c (h c hc)

theorem All.map {P Q : Core → Prop} {c : Core} {ch : Option Core} (hk : All P c ch) (f : Core → Core)
    (hf : ∀ c, P c → Q (f c)) : All Q (f c) (ch.map f) :=
  ⟨hf _ hk.1, forall_map hk.2 hf⟩

theorem srcWF {w : World} (hw : w.WF) : SrcWF w.src := by
  intro tid t ht
  cases hs : w.src with
  | none => rw [hs] at ht; cases ht
  | some l =>
    rw [hs] at ht
    obtain ⟨p, hp, rfl⟩ := Option.map_eq_some_iff.1 ht
    unfold World.src at hs
    split at hs
    · obtain ⟨k, _, hk⟩ := Option.bind_eq_some_iff.1 hs
      exact hw l (List.mem_of_getElem? hk) p (List.mem_of_find?_eq_some hp)
    · cases hs

theorem unload_clean {src : Option Source} {h : Holder} (hk : Holder.Ok src h) :
    All Clean h.unload.core h.unload.charge :=
  (ok_iff.1 hk).map Core.unload fun _ hc => hc.unload

theorem load_ok {src : Option Source} (hs : SrcWF src) {h : Holder} (ho : h.onFit = true)
    (hc : All Clean h.core h.charge) : Holder.Ok src (h.load src) :=
  ok_iff.2 (by
    rw [show (h.load src).onFit = true from ho]
    exact hc.map (fun c => c.load (Source.type? src c.typeId) h.state) fun c hc => CoreOk.load hs h.state hc)

theorem off_fit_clean {src : Option Source} {h : Holder} (ho : h.onFit = false) (hk : Holder.Ok src h) :
    All Clean h.core h.charge := by
  have := ok_iff.1 hk; rw [ho] at this
  exact ⟨this.1.clean, fun c hc => (this.2 c hc).clean⟩

theorem clean_ok {src : Option Source} {h : Holder} (ho : h.onFit = false) (hc : All Clean h.core h.charge) :
    Holder.Ok src h :=
  ok_iff.2 (by rw [ho]; exact ⟨.of_clean hc.1, fun c hcc => .of_clean (hc.2 c hcc)⟩)

/-- A chain of guards returns `.ok a` exactly when every guard passes and what follows them is `.ok a`. -/
theorem guard_eq_ok {ε α : Type} {c : Prop} [Decidable c] {e : ε} {x : Except ε α} {a : α} :
    (if c then .error e else x) = .ok a ↔ ¬c ∧ x = .ok a := by
  by_cases h : c <;> simp [h]

/-! The three switches, when they succeed, are run-mode changes on the item's own core. -/
section switches
variable {src : Option Source} {amap : List (Nat × Nat)} {h h' : Holder}

theorem apply_setSide {e : Nat} {on : Bool}
    (he : h.apply src amap (.setSide e on) = .ok h') :
    h.core.sideEffects.any (·.1 == e) = true ∧
      h' = { h with core := h.core.setModes [(e, Core.sideMode on)] h.onFit h.state } := by
  obtain ⟨_, he⟩ := guard_eq_ok.1 he
  obtain ⟨ha, ⟨⟩⟩ := guard_eq_ok.1 he
  exact ⟨by simpa only [Bool.not_eq_true', Bool.not_eq_false] using ha, rfl⟩

theorem apply_randomize {draws : List Rat}
    (he : h.apply src amap (.randomize draws) = .ok h') :
    h' = { h with core := h.core.setModes (h.core.randomModes (drawsFn draws)) h.onFit h.state } := by
  obtain ⟨_, ⟨⟩⟩ := guard_eq_ok.1 he
  rfl

theorem apply_setAbility {a : Nat} {on : Bool}
    (he : h.apply src amap (.setAbility a on) = .ok h') :
    ∃ t e, h.core.type = some t ∧ Core.abilityEffect amap a = some e ∧
      h' = { h with core := h.core.setModes [(e, Core.abilityMode (t.defaultEffect == some e) on)] h.onFit h.state } := by
  obtain ⟨_, he⟩ := guard_eq_ok.1 he
  split at he
  · cases he
  next t ht =>
    obtain ⟨_, he⟩ := guard_eq_ok.1 he
    split at he
    · cases he
    next e hae => cases he; exact ⟨t, e, ht, hae, rfl⟩

end switches

theorem apply_ok {src : Option Source} (hs : SrcWF src) (amap : List (Nat × Nat)) (h h' : Holder)
    (hk : Holder.Ok src h) (op : HOp) (he : h.apply src amap op = .ok h') : Holder.Ok src h' := by
  have core_setModes : ∀ ms, Holder.Ok src { h with core := h.core.setModes ms h.onFit h.state } := fun ms =>
    ok_iff.2 ⟨(ok_iff.1 hk).1.setModes hs ms, (ok_iff.1 hk).2⟩
  cases op with
  | add =>
    obtain ⟨ho, ⟨⟩⟩ := guard_eq_ok.1 he
    exact load_ok hs rfl (off_fit_clean (h := h) (eq_false_of_ne_true ho) hk)
  | remove =>
    obtain ⟨_, ⟨⟩⟩ := guard_eq_ok.1 he
    exact clean_ok rfl (unload_clean hk)
  | setState st =>
    obtain ⟨_, he⟩ := guard_eq_ok.1 he
    by_cases hst : st = h.state
    · rw [if_pos hst] at he; cases he; exact hk
    rw [if_neg hst] at he
    split at he    -- on the fit: re-resolve; off the fit: only the state changes
    · cases he
      exact ok_iff.2 ((ok_iff.1 hk).map (·.stateChanged st) fun c hc => hc.stateChanged hs st)
    · rename_i ho
      cases he
      have ho := eq_false_of_ne_true ho
      exact clean_ok ho (off_fit_clean (h := h) ho hk)
  | setModes onCharge ms =>
    cases onCharge with
    | false => cases he; exact core_setModes ms
    | true =>
      obtain ⟨_, ⟨⟩⟩ := guard_eq_ok.1 he
      exact ok_iff.2 ⟨(ok_iff.1 hk).1, forall_map (ok_iff.1 hk).2 fun c hc => hc.setModes hs ms⟩
  | setCharge charge =>
    obtain ⟨_, ⟨⟩⟩ := guard_eq_ok.1 he
    refine ok_iff.2 ⟨(ok_iff.1 hk).1, ?_⟩
    -- a fresh charge is clean; on a fit it is loaded at once
    have fresh : ∀ c, charge.map (fun p => ({ typeId := p.1, modes := setModes [] p.2 } : Core)) = some c → Clean c :=
      fun c hc => by obtain ⟨p, _, rfl⟩ := Option.map_eq_some_iff.1 hc; exact ⟨rfl, rfl⟩
    cases ho : h.onFit with
    | true => exact forall_map fresh fun c hc => CoreOk.load hs _ hc
    | false => exact fun c hc => .of_clean (fresh c hc)
  | setSide e on => obtain ⟨_, rfl⟩ := apply_setSide he; exact core_setModes _
  | randomize draws => obtain rfl := apply_randomize he; exact core_setModes _
  | setAbility a on => obtain ⟨t, e, _, _, rfl⟩ := apply_setAbility he; exact core_setModes _

/-- What histories keep: every item is as `Holder.Ok` says for the source the fit can reach. -/
def Inv (w : World) : Prop := w.WF ∧ ∀ h ∈ w.items, Holder.Ok w.src h

theorem reload_ok {w : World} (hw : Inv w) (k : Option Nat) (att : Bool) : Inv (w.reload k att) := by
  refine ⟨hw.1, fun h' hh' => ?_⟩
  simp only [World.reload, List.mem_map] at hh'
  obtain ⟨h, hh, rfl⟩ := hh'
  split
  · rename_i ho
    exact load_ok (srcWF (w := w.reload k att) hw.1) (by simpa [Holder.unload] using ho) (unload_clean (hw.2 h hh))
  · rename_i ho
    have ho : h.onFit = false := by simpa using ho
    exact clean_ok ho (off_fit_clean ho (hw.2 h hh))

theorem step_ok {w : World} (hw : Inv w) (op : Op) : Inv (w.step op).1 := by
  -- every step first clears the logs, which the invariant does not look at
  have hi1 : ∀ h ∈ w.items.map Holder.clearLog, Holder.Ok w.src h := by
    intro h hh
    obtain ⟨h0, hh0, rfl⟩ := List.mem_map.1 hh
    exact ok_iff.2 ((ok_iff.1 (hw.2 h0 hh0)).map (fun c => { c with log := [] }) fun c hc => hc)
  unfold World.step
  extract_lets w1
  have base : Inv w1 := ⟨hw.1, hi1⟩
  have hs1 : SrcWF w1.src := srcWF (w := w1) hw.1
  clear_value w1
  cases op with
  | new id kind typeId st =>
    simp only
    split
    · exact base
    · refine ⟨base.1, fun h hh => ?_⟩
      rcases List.mem_append.1 hh with hh | hh
      · exact base.2 h hh
      · obtain rfl := List.mem_singleton.1 hh
        exact clean_ok rfl ⟨⟨rfl, rfl⟩, fun c hc => nomatch hc⟩
  | item id hop =>
    simp only
    split
    · exact base
    · split
      · exact base
      · refine ⟨base.1, fun h' hh' => ?_⟩
        obtain ⟨h, hh, rfl⟩ := List.mem_map.1 hh'
        split
        · split
          · rename_i h2 he; exact apply_ok hs1 _ h h2 (base.2 h hh) hop he
          · exact base.2 h hh
        · exact base.2 h hh
  | setSource k =>
    simp only
    split
    · exact base
    · split
      · split
        · exact reload_ok base _ _
        · exact base
      · exact reload_ok base _ _
  | attach =>
    simp only
    split
    · exact base
    · exact reload_ok base _ _
  | detach =>
    simp only
    split
    · exact base
    · exact reload_ok base _ _

theorem run_ok (ops : List Op) : ∀ {w : World}, Inv w → Inv (w.run ops) := by
  induction ops with
  | nil => exact id
  | cons op ops ih => exact fun hw => ih (step_ok hw op)

theorem run_ok_empty (w : World) (hw : w.WF) (h0 : w.items = []) (ops : List Op) :
    ∀ h ∈ (w.run ops).items, Holder.Ok (w.run ops).src h :=
  (run_ok ops ⟨hw, by simp [h0]⟩).2

theorem id_mem_resolve_iff {c : Core} {t : TypeDef} (ht : c.type = some t) (hwf : t.WF) {ed : EffectDef}
    (hed : ed ∈ t.effects) (st : State) : ed.id ∈ c.resolve st ↔ t.status c.modes st ed = true := by
  rw [mem_resolve ht]
  constructor
  · rintro ⟨ed', h1, h2, h3⟩
    rwa [eq_of_nodup_map (·.id) hwf.1 h1 hed h2] at h3
  · intro h; exact ⟨ed, hed, rfl, h⟩

theorem mem_setModes_running {c : Core} {t : TypeDef} (ht : c.type = some t) (hwf : t.WF) {ed : EffectDef}
    (hed : ed ∈ t.effects) (ms : List (Nat × Nat)) (st : State) :
    ed.id ∈ (c.setModes ms true st).running ↔ t.status (setModes c.modes ms) st ed = true := by
  simp only [Core.setModes, if_true]
  rw [mem_update_running]
  exact id_mem_resolve_iff (c := { c with modes := setModes c.modes ms }) ht hwf hed st

theorem setModes_fields (c : Core) (ms : List (Nat × Nat)) (onFit : Bool) (st : State) :
    (c.setModes ms onFit st).type = c.type ∧ (c.setModes ms onFit st).modes = setModes c.modes ms := by
  cases onFit <;> simp [Core.setModes, Core.update]

theorem setModes_loaded {src : Option Source} (hs : SrcWF src) {h : Holder} (hk : Holder.Ok src h) {t : TypeDef}
    (ht : h.core.type = some t) {ed : EffectDef} (hed : ed ∈ t.effects) (ms : List (Nat × Nat)) :
    t.WF ∧ (h.core.setModes ms h.onFit h.state).type = some t ∧
    (h.core.setModes ms h.onFit h.state).modes = setModes h.core.modes ms ∧
    (ed.id ∈ (h.core.setModes ms h.onFit h.state).running ↔ t.status (setModes h.core.modes ms) h.state ed = true) := by
  have hon : h.onFit = true := by
    cases ho : h.onFit with
    | true => rfl
    | false => have := hk.1; simp [ho, ht] at this
  have hwf : t.WF := core_wf hs hk.1 t ht
  obtain ⟨f1, f2⟩ := setModes_fields h.core ms h.onFit h.state
  exact ⟨hwf, f1.trans ht, f2, by rw [hon]; exact mem_setModes_running ht hwf hed ms h.state⟩

theorem mem_sideEffects {c : Core} {e : Nat} {ch : Rat} :
    (e, ch) ∈ c.sideEffects ↔
      ∃ t, c.type = some t ∧ ∃ ed ∈ t.effects, ed.estate = .offline ∧ ed.chance = some ch ∧ ed.id = e := by
  unfold Core.sideEffects Core.effects
  cases c.type with
  | none => exact ⟨(nomatch ·), fun ⟨_, h, _⟩ => nomatch h⟩
  | some t => exact mem_filterMap_keyed.trans ⟨fun h => ⟨t, rfl, h⟩, fun ⟨_, rfl, h⟩ => h⟩

theorem sideEffects_nodup {c : Core} (hwf : ∀ t, c.type = some t → t.WF) : (c.sideEffects.map (·.1)).Nodup := by
  unfold Core.sideEffects Core.effects
  cases ht : c.type with
  | none => simp
  | some t => exact nodup_filterMap_keyed (hwf t ht).1

theorem sideStatus_eq {c : Core} {t : TypeDef} (ht : c.type = some t) (hwf : t.WF) {ed : EffectDef}
    (hed : ed ∈ t.effects) : c.sideStatus ed.id = t.status c.modes .offline ed := by
  simp [Core.sideStatus, ht, find_of_mem hwf hed]

theorem offline_le (st : State) : State.offline.le st = true := by cases st <;> rfl

/-- A chance-based offline effect runs exactly in state compliance (mode 2), not in full compliance (mode 1). -/
theorem side_status_of_mode (t : TypeDef) (modes : List (Nat × Nat)) (st : State) (ed : EffectDef)
    (hoff : ed.estate = .offline) (hch : ed.hasChance = true) (on : Bool)
    (hm : getMode modes ed.id = Core.sideMode on) : t.status modes st ed = on := by
  cases on <;>
    simp [TypeDef.status, hm, Core.sideMode, ModeK.ofId, decideStatus, hoff, offline_le, fullExtra, TypeDef.traits, hch]

theorem randomModesFrom_eq (draws : Nat → Rat) (l : List (Nat × Rat)) (i : Nat) :
    Core.randomModesFrom draws i l = (l.zipIdx i).map fun p => (p.1.1, Core.sideMode (draws p.2 < p.1.2)) := by
  induction l generalizing i with
  | nil => rfl
  | cons p ps ih => simp [Core.randomModesFrom, ih]

theorem randomModes_keys (c : Core) (draws : Nat → Rat) : (c.randomModes draws).map (·.1) = c.sideEffects.map (·.1) := by
  refine List.ext_getElem? fun j => ?_
  simp [Core.randomModes, randomModesFrom_eq, Function.comp_def]

theorem find_randomModes {c : Core} (hn : (c.sideEffects.map (·.1)).Nodup) (draws : Nat → Rat) {i e : Nat} {ch : Rat}
    (hi : c.sideEffects[i]? = some (e, ch)) :
    (c.randomModes draws).find? (·.1 == e) = some (e, Core.sideMode (draws i < ch)) := by
  refine find?_key_eq_some (·.1) (a := (e, Core.sideMode (draws i < ch))) (by rwa [randomModes_keys c draws]) ?_
  rw [Core.randomModes, randomModesFrom_eq]
  exact List.mem_map.2 ⟨((e, ch), i), List.mem_zipIdx_iff_getElem?.2 hi, rfl⟩

theorem abilityStatus_eq {c : Core} {t : TypeDef} (ht : c.type = some t) (hwf : t.WF) {ed : EffectDef}
    (hed : ed ∈ t.effects) (hact : ed.estate = .active) :
    c.abilityStatus ed.id = some (t.status c.modes .active ed) := by
  simp [Core.abilityStatus, ht, find_of_mem hwf hed, hact]

theorem ability_status_of_mode (t : TypeDef) (modes : List (Nat × Nat)) (st : State) (ed : EffectDef)
    (hact : ed.estate = .active) (on : Bool)
    (hm : getMode modes ed.id = Core.abilityMode (t.defaultEffect == some ed.id) on) :
    t.status modes st ed = (on && State.active.le st) := by
  cases on <;> cases hd : (t.defaultEffect == some ed.id) <;>
    simp [TypeDef.status, hm, hd, Core.abilityMode, ModeK.ofId, decideStatus, hact, fullExtra, TypeDef.traits]

end Eos.C05
