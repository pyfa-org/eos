import EosProofs.Lemmas.CalcBasic
/-! `applyOp` by operator class, the ordered fold on one contribution and on stack-mode lists, multipliers of zero,
the aggregate groups of `contributions`. -/
namespace Eos.Calc

theorem knownOp_cases {op : Nat} (h : knownOp op = true) :
    op = 1 ∨ op = 2 ∨ op = 3 ∨ op = 4 ∨ op = 5 ∨ op = 6 ∨ op = 7 ∨ op = 8 ∨ op = 9 ∨ op = 10 := by
  simp only [knownOp, Bool.and_eq_true, decide_eq_true_eq] at h; omega

theorem isMul_known {op : Nat} (h : isMul op = true) : knownOp op = true := by
  simp only [isMul, Bool.or_eq_true, beq_iff_eq] at h
  simp only [knownOp, Bool.and_eq_true, decide_eq_true_eq]; omega

theorem class_disjoint (op : Nat) :
    (isMul op = true → isAssign op = false ∧ isAdd op = false) ∧ (isAdd op = true → isAssign op = false) := by
  simp only [isMul, isAdd, isAssign, Bool.or_eq_true, Bool.or_eq_false_iff, beq_iff_eq, beq_eq_false_iff_ne]
  omega

theorem applyOp_mul (hig : Bool) {op : Nat} (h : isMul op = true) (vs : List Rat) (value : Rat) :
    applyOp hig op vs value = value * prodOnePlus vs := by
  unfold applyOp
  cases vs with
  | nil => simp
  | cons x xs => simp [(class_disjoint op).1 h, h]

theorem applyOp_add (hig : Bool) {op : Nat} (h : isAdd op = true) (vs : List Rat) (value : Rat) :
    applyOp hig op vs value = value + sumList vs := by
  unfold applyOp
  cases vs with
  | nil => simp
  | cons x xs => simp [(class_disjoint op).2 h, h]

theorem applyOp_assign (hig : Bool) {op : Nat} (h : isAssign op = true) (vs : List Rat) (value : Rat) :
    applyOp hig op vs value = (if hig then maxList vs else minList vs).getD value := by
  unfold applyOp
  cases vs with
  | nil => cases hig <;> simp [maxList, minList]
  | cons x xs => simp [h]

theorem contributions_cons_stack (n : NMod) (ns : List NMod) (h : n.agg = 1) :
    contributions (n :: ns) = (n.op, n.v, n.pen) :: contributions ns := by
  simp [contributions, h]

@[simp] theorem contributions_nil : contributions [] = [] := by
  simp [contributions, dedup]

theorem opValues_nil (pen : Nat → Rat) (op : Nat) : opValues pen [] op = [] := by
  simp [opValues]

theorem opValues_cons_ne (pen : Nat → Rat) {c : Nat × Rat × Bool} {op : Nat} (h : c.1 ≠ op)
    (cs : List (Nat × Rat × Bool)) : opValues pen (c :: cs) op = opValues pen cs op := by
  have h' : (c.1 == op) = false := beq_eq_false_iff_ne.2 h
  unfold opValues
  rw [List.filter_cons_of_neg (by simp [h']), List.filter_cons_of_neg (by simp [h'])]

theorem foldOps_nil (pen : Nat → Rat) (hig : Bool) (b : Rat) : foldOps pen hig [] b = b := by
  simp [foldOps, opOrder, opValues_nil, applyOp]

theorem opValues_no_pen (pen : Nat → Rat) (cs : List (Nat × Rat × Bool)) (op : Nat)
    (h : ∀ c ∈ cs, c.2.2 = false) :
    opValues pen cs op = (cs.filter fun c => c.1 == op).map (·.2.1) := by
  unfold opValues
  have h1 : (cs.filter fun c => c.1 == op && c.2.2) = [] := by
    rw [List.filter_eq_nil_iff]; intro c hc; simp [h c hc]
  have h2 : (cs.filter fun c => c.1 == op && !c.2.2) = cs.filter fun c => c.1 == op := by
    apply List.filter_congr; intro c hc; simp [h c hc]
  simp [h1, h2]

theorem opValues_single (pen : Nat → Rat) (o : Nat) (v : Rat) (p : Bool) (op : Nat) :
    opValues pen [(o, v, p)] op = if o = op then [if p then v * pen 0 else v] else [] := by
  by_cases h : o = op
  · subst h; cases p <;> simp [opValues, penalize_single]
  · rw [opValues_cons_ne pen h, opValues_nil, if_neg h]

theorem foldl_only {α β : Type} (f : β → α → β) (o : α) (hf : ∀ b a, a ≠ o → f b a = b) :
    ∀ l : List α, l.Nodup → o ∈ l → ∀ b, l.foldl f b = f b o
  | a :: t, hn, ho, b => by
    have idle : ∀ t : List α, o ∉ t → ∀ b, t.foldl f b = b := fun t => by
      induction t with
      | nil => exact fun _ _ => rfl
      | cons a t ih =>
        exact fun h b => by rw [List.foldl_cons, hf b a (fun e => h (e ▸ List.mem_cons_self)),
          ih fun h' => h (List.mem_cons_of_mem _ h')]
    rw [List.foldl_cons]
    by_cases e : a = o
    · rw [e, idle t (e ▸ (List.nodup_cons.1 hn).1)]
    · rw [hf b a e]
      exact foldl_only f o hf t (List.nodup_cons.1 hn).2 ((List.mem_cons.1 ho).resolve_left (Ne.symm e)) b

theorem foldOps_single (pen : Nat → Rat) (hig : Bool) (o : Nat) (v : Rat) (p : Bool) (b : Rat)
    (hk : knownOp o = true) :
    foldOps pen hig [(o, v, p)] b = applyOp hig o [if p then v * pen 0 else v] b := by
  have ho : o ∈ opOrder := by
    simp only [opOrder, List.mem_cons, List.not_mem_nil, or_false]; exact knownOp_cases hk
  rw [foldOps, foldl_only _ o (fun b a ha => by rw [opValues_single, if_neg (Ne.symm ha)]; rfl) opOrder
    (by decide) ho, opValues_single, if_pos rfl]

theorem contributions_all_stack (ns : List NMod) (h : ∀ n ∈ ns, n.agg = 1) :
    contributions ns = ns.map fun n => (n.op, n.v, n.pen) := by
  induction ns with
  | nil => simp
  | cons n ns ih =>
    rw [contributions_cons_stack n ns (h n List.mem_cons_self),
      ih fun n' hn' => h n' (List.mem_cons_of_mem _ hn'), List.map_cons]

/-- The hypothesis is Boolean so that a literal list discharges it by `rfl`. -/
theorem calculate_stack (pen : Nat → Rat) (st hig : Bool) (b : Rat) (mods : List Mod)
    (h : mods.all (fun m => knownOp m.op && m.agg == 1 && !isBad m) = true) :
    calculate pen st hig b mods none false =
      .ok (foldOps pen hig (mods.map fun m => (m.op, normVal m.op m.value * m.resist,
        !st && !m.immune && isPenalizable m.op)) b) := by
  simp only [List.all_eq_true, Bool.and_eq_true, beq_iff_eq, Bool.not_eq_true'] at h
  rw [calculate_eq, List.any_eq_false.2 fun m hm => Bool.eq_false_iff.1 (h m hm).2, if_neg Bool.false_ne_true,
    List.filter_eq_self.2 fun m hm => (h m hm).1.1,
    contributions_all_stack _ (List.forall_mem_map.2 fun m hm => (h m hm).1.2), List.map_map]
  rfl

theorem calculate_single (pen : Nat → Rat) (st hig : Bool) (b : Rat) (m : Mod)
    (hk : knownOp m.op = true) (hagg : m.agg = 1) (hb : isBad m = false)
    (hp : isPenalizable m.op = false ∨ st = true ∨ m.immune = true ∨ pen 0 = 1) :
    calculate pen st hig b [m] none false =
      .ok (applyOp hig m.op [normVal m.op m.value * m.resist] b) := by
  rw [calculate_stack pen st hig b [m] (by simp [hk, hagg, hb]), List.map_singleton,
    foldOps_single pen hig _ _ _ _ hk]
  congr 3
  rcases hp with h | h | h | h
  · simp [h]
  · simp [h]
  · simp [h]
  · rw [h, mul_one]; split <;> rfl

theorem penalize_cons_zero (pen : Nat → Rat) (vs : List Rat) : penalize pen (0 :: vs) = penalize pen vs := by
  rw [penalize_eq pen (0 :: vs) (sortDesc (vs.filter fun v => decide (0 ≤ v)) ++ [0])
      (sortAsc (vs.filter fun v => decide (v < 0))), chainVal_append,
      show chainVal pen _ [0] = 1 by simp [chainVal], mul_one]
  · rfl
  · simpa using (List.perm_append_singleton _ _).trans ((sortDesc_perm _).cons 0)
  · refine List.pairwise_append.2 ⟨sortDesc_pairwise _, List.pairwise_singleton _ _, fun a ha b hb => ?_⟩
    rw [List.mem_singleton.1 hb]
    simpa using (List.mem_filter.1 ((sortDesc_perm _).mem_iff.1 ha)).2
  · simpa using sortAsc_perm _
  · exact sortAsc_pairwise _

theorem prodOnePlus_opValues (pen : Nat → Rat) (cs : List (Nat × Rat × Bool)) (op : Nat) :
    prodOnePlus (opValues pen cs op) =
      prodOnePlus ((cs.filter fun c => c.1 == op && !c.2.2).map (·.2.1)) *
        (1 + penalize pen ((cs.filter fun c => c.1 == op && c.2.2).map (·.2.1))) := by
  unfold opValues
  simp only []
  split
  · rename_i he; rw [List.isEmpty_iff.1 he, penalize_nil, add_zero, mul_one]
  · rw [prodOnePlus_append, prodOnePlus_cons, prodOnePlus_nil, mul_one]

theorem applyOp_cons_zero (pen : Nat → Rat) (hig : Bool) (o : Nat) (p : Bool) (ho : isMul o = true)
    (cs : List (Nat × Rat × Bool)) (op : Nat) (value : Rat) :
    applyOp hig op (opValues pen ((o, 0, p) :: cs) op) value = applyOp hig op (opValues pen cs op) value := by
  by_cases h : o = op
  · subst h
    rw [applyOp_mul hig ho, applyOp_mul hig ho, prodOnePlus_opValues, prodOnePlus_opValues]
    cases p <;> simp [prodOnePlus_cons, penalize_cons_zero]
  · rw [opValues_cons_ne pen h]

theorem foldOps_cons_zero (pen : Nat → Rat) (hig : Bool) (o : Nat) (p : Bool) (ho : isMul o = true)
    (cs : List (Nat × Rat × Bool)) (b : Rat) :
    foldOps pen hig ((o, 0, p) :: cs) b = foldOps pen hig cs b := by
  unfold foldOps
  congr 1
  funext value op
  exact applyOp_cons_zero pen hig o p ho cs op value

theorem mem_keysOf (ns : List NMod) (mode : Nat) (k : Nat × Option Int) :
    k ∈ keysOf ns mode ↔ ∃ n ∈ ns, n.agg = mode ∧ (n.op, n.key) = k := by
  unfold keysOf
  rw [mem_dedup]
  simp only [List.mem_map, List.mem_filter, beq_iff_eq, and_assoc]

theorem mem_groupOf (ns : List NMod) (mode : Nat) (k : Nat × Option Int) (n : NMod) :
    n ∈ groupOf ns mode k ↔ n ∈ ns ∧ n.agg = mode ∧ n.op = k.1 ∧ n.key = k.2 := by
  unfold groupOf
  simp only [List.mem_filter, beq_iff_eq, Bool.and_eq_true]
  tauto

theorem groupPart_forall₂ (ns : List NMod) (mode : Nat) (pick : List NMod → Option (Rat × Bool))
    (hpick : ∀ l, l ≠ [] → ∃ p, pick l = some p) :
    List.Forall₂ (fun k c => c.1 = k.1 ∧ pick (groupOf ns mode k) = some c.2)
      (keysOf ns mode) (groupPart ns mode pick) := by
  unfold groupPart
  have hne : ∀ k ∈ keysOf ns mode, groupOf ns mode k ≠ [] := by
    intro k hk
    obtain ⟨n, hn, ha, he⟩ := (mem_keysOf ns mode k).1 hk
    have : n ∈ groupOf ns mode k := by
      rw [mem_groupOf]; subst he; exact ⟨hn, ha, rfl, rfl⟩
    exact List.ne_nil_of_mem this
  generalize keysOf ns mode = ks at hne
  induction ks with
  | nil => exact List.Forall₂.nil
  | cons k ks ih =>
    obtain ⟨p, hp⟩ := hpick _ (hne k List.mem_cons_self)
    rw [List.filterMap_cons, hp]
    exact List.Forall₂.cons ⟨rfl, hp⟩ (ih fun k' hk' => hne k' (List.mem_cons_of_mem _ hk'))

theorem pickMin_isSome (l : List NMod) (h : l ≠ []) : ∃ p, pickMin l = some p := by
  cases l with
  | nil => exact absurd rfl h
  | cons x xs => exact ⟨_, rfl⟩
theorem pickMax_isSome (l : List NMod) (h : l ≠ []) : ∃ p, pickMax l = some p := by
  cases l with
  | nil => exact absurd rfl h
  | cons x xs => exact ⟨_, rfl⟩

end Eos.Calc
