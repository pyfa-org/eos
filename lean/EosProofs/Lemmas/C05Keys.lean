import EosModel.EffectStatusSpec
import EosProofs.Lemmas.ListFacts
/-! C05: the specification's product of keys. Every key records the coordinates it was built from, so the
product has no duplicates; every coordinate is a decimal digit, so the packing is injective on it. And what the
positional row check `rowsOk` / `partsOk` means for the table against that product. -/
namespace Eos.C05
open Eos.EffectStatus

theorem keysFor_inner_eq_some {p : Prop} [Decidable p] {b k : Key} (hk : (if p then none else some b) = some k) :
    k = b ∧ ¬p := by
  split at hk
  · cases hk
  · rename_i hn; cases hk; exact ⟨rfl, hn⟩

theorem mem_keysFor {k : Key} {s : State} {m : Nat} :
    k ∈ keysFor s m ↔ (k.st = s ∧ k.mode = m) ∧ k.online ∈ onlineValues ∧ (k.online = .self → k.cat = .online) := by
  simp only [keysFor, List.mem_flatMap, List.mem_filterMap]
  constructor
  · rintro ⟨c, _, d, _, o, ho, h, _, v, _, hk⟩
    obtain ⟨rfl, hn⟩ := keysFor_inner_eq_some hk
    exact ⟨⟨rfl, rfl⟩, ho, fun hs => Classical.byContradiction fun hc => hn ⟨hs, hc⟩⟩
  · obtain ⟨st, mode, cat, d, o, h, v⟩ := k
    rintro ⟨⟨rfl, rfl⟩, ho, hs⟩
    exact ⟨cat, by cases cat <;> decide, d, by cases d <;> decide, o, ho, h, by cases h <;> decide,
      v, by rcases v with _ | (_ | _ | _ | _) <;> decide, if_neg fun hh => hh.2 (hs hh.1)⟩

theorem keysFor_nodup (s : State) (m : Nat) : (keysFor s m).Nodup := by
  unfold keysFor
  refine nodup_flatMap_of_proj Key.cat (by decide) (fun c _ => ?_) (fun c _ k hk => ?_)
  · refine nodup_flatMap_of_proj Key.isDefault (by decide) (fun d _ => ?_) (fun d _ k hk => ?_)
    · refine nodup_flatMap_of_proj Key.online (by decide) (fun o _ => ?_) (fun o _ k hk => ?_)
      · refine nodup_flatMap_of_proj Key.hasChance (by decide) (fun h _ => ?_) (fun h _ k hk => ?_)
        · refine List.Pairwise.filterMap _ ?_ (show overrideValues.Nodup by decide)
          intro v v' hne k hk k' hk' hkk
          rw [(keysFor_inner_eq_some hk).1, (keysFor_inner_eq_some hk').1] at hkk
          exact hne (congrArg Key.override hkk)
        · obtain ⟨v, _, hk⟩ := List.mem_filterMap.1 hk
          rw [(keysFor_inner_eq_some hk).1]
      · simp only [List.mem_flatMap, List.mem_filterMap] at hk
        obtain ⟨h, _, v, _, hk⟩ := hk
        rw [(keysFor_inner_eq_some hk).1]
    · simp only [List.mem_flatMap, List.mem_filterMap] at hk
      obtain ⟨o, _, h, _, v, _, hk⟩ := hk
      rw [(keysFor_inner_eq_some hk).1]
  · simp only [List.mem_flatMap, List.mem_filterMap] at hk
    obtain ⟨d, _, o, _, h, _, v, _, hk⟩ := hk
    rw [(keysFor_inner_eq_some hk).1]

theorem allKeys_eq : allKeys = State.all.flatMap fun s => modeValues.flatMap fun m => keysFor s m := by
  simp only [allKeys, keyParts, List.flatMap_def, List.flatten_flatten, List.map_map]
  rfl

theorem mem_allKeys {k : Key} :
    k ∈ allKeys ↔ k.mode ∈ modeValues ∧ k.online ∈ onlineValues ∧ (k.online = .self → k.cat = .online) := by
  simp only [allKeys_eq, List.mem_flatMap, mem_keysFor]
  constructor
  · rintro ⟨s, _, m, hm, ⟨_, rfl⟩, h⟩
    exact ⟨hm, h⟩
  · rintro ⟨hm, h⟩
    exact ⟨k.st, by cases k.st <;> simp [State.all], k.mode, hm, ⟨rfl, rfl⟩, h⟩

theorem allKeys_nodup : allKeys.Nodup := by
  rw [allKeys_eq]
  refine nodup_flatMap_of_proj Key.st (by decide) (fun s _ => ?_) (fun s _ k hk => ?_)
  · exact nodup_flatMap_of_proj Key.mode (by decide) (fun m _ => keysFor_nodup s m)
      (fun m _ k hk => (mem_keysFor.1 hk).1.2)
  · obtain ⟨m, _, hk⟩ := List.mem_flatMap.1 hk
    exact (mem_keysFor.1 hk).1.1

theorem stateOfNat?_toNat (s : State) : State.ofNat? s.toNat = some s := by cases s <;> rfl

theorem catOfNat?_toNat (c : Cat) : Cat.ofNat? c.toNat = some c := by cases c <;> rfl

theorem state_toNat_inj {a b : State} (h : a.toNat = b.toNat) : a = b :=
  Option.some.inj (by rw [← stateOfNat?_toNat a, h, stateOfNat?_toNat b])

theorem cat_toNat_inj {a b : Cat} (h : a.toNat = b.toNat) : a = b :=
  Option.some.inj (by rw [← catOfNat?_toNat a, h, catOfNat?_toNat b])

theorem b2n_inj {a b : Bool} (h : b2n a = b2n b) : a = b := by
  cases a <;> cases b <;> first | rfl | cases h

/-- The last digit of `Key.pack`. -/
def ovDigit (v : Option State) : Nat := match v with | none => 0 | some v => v.toNat

theorem ovDigit_inj {a b : Option State} (h : ovDigit a = ovDigit b) : a = b := by
  rcases a with _ | a <;> rcases b with _ | b
  · rfl
  · cases b <;> cases h
  · cases a <;> cases h
  · exact congrArg some (state_toNat_inj h)

/-- Only on the values that occur: `present 0` packs like `absent`, `present 6` like `self`. -/
theorem online_toNat_inj : ∀ a ∈ onlineValues, ∀ b ∈ onlineValues, a.toNat = b.toNat → a = b := by decide

theorem digit_inj {a a' b b' : Nat} (hb : b < 10) (hb' : b' < 10) (h : a * 10 + b = a' * 10 + b') :
    a = a' ∧ b = b' := by omega

/-- Not so on all of `Key`: a run mode of 10 or more spills into the state digit. -/
theorem pack_inj {k k' : Key} (hk : k ∈ allKeys) (hk' : k' ∈ allKeys) (h : k.pack = k'.pack) : k = k' := by
  obtain ⟨st, mode, cat, d, o, c, v⟩ := k
  obtain ⟨st', mode', cat', d', o', c', v'⟩ := k'
  obtain ⟨hm, ho, _⟩ : mode ∈ modeValues ∧ o ∈ onlineValues ∧ _ := mem_allKeys.1 hk
  obtain ⟨hm', ho', _⟩ : mode' ∈ modeValues ∧ o' ∈ onlineValues ∧ _ := mem_allKeys.1 hk'
  have bs : ∀ s : State, s.toNat < 10 := fun s => by cases s <;> decide
  have bc : ∀ c : Cat, c.toNat < 10 := fun c => by cases c <;> decide
  have bb : ∀ b : Bool, b2n b < 10 := fun b => by cases b <;> decide
  have bv : ∀ v : Option State, ovDigit v < 10 := fun v => by
    rcases v with _ | v
    · decide
    · exact bs v
  have bo : ∀ o ∈ onlineValues, o.toNat < 10 := by decide
  have bm : ∀ m ∈ modeValues, m < 10 := by decide
  dsimp only [Key.pack] at h
  obtain ⟨h, hv⟩ := digit_inj (bv v) (bv v') h
  obtain ⟨h, hc⟩ := digit_inj (bb c) (bb c') h
  obtain ⟨h, ho⟩ := digit_inj (bo o ho) (bo o' ho') h
  obtain ⟨h, hd⟩ := digit_inj (bb d) (bb d') h
  obtain ⟨h, hcat⟩ := digit_inj (bc cat) (bc cat') h
  obtain ⟨hst, rfl⟩ := digit_inj (bm mode hm) (bm mode' hm') h
  rw [state_toNat_inj hst, cat_toNat_inj hcat, b2n_inj hd, online_toNat_inj o ‹_› o' ‹_› ho, b2n_inj hc, ovDigit_inj hv]

theorem packs_nodup : (allKeys.map Key.pack).Nodup :=
  List.pairwise_map.2 (allKeys_nodup.imp_of_mem fun ha hb hne h => hne (pack_inj ha hb h))

theorem rowsOk_spec : ∀ (rows : List Nat) (keys : List Key), rowsOk rows keys = true →
    rows.length = keys.length ∧ ∀ p ∈ rows.zip keys, rowOk p.1 p.2 = true := by
  intro rows
  induction rows with
  | nil => intro keys h; cases keys <;> simp_all [rowsOk]
  | cons r rs ih =>
    intro keys h
    cases keys with
    | nil => simp [rowsOk] at h
    | cons k ks =>
      simp only [rowsOk, Bool.and_eq_true] at h
      obtain ⟨h1, h2⟩ := ih ks h.2
      refine ⟨by simp [h1], ?_⟩
      intro p hp
      rcases List.mem_cons.1 (by simpa using hp) with rfl | hp
      · exact h.1
      · exact h2 p hp

theorem partsOk_spec : ∀ (ps : List (List Nat)) (ks : List (List Key)), partsOk ps ks = true →
    ps.flatten.length = ks.flatten.length ∧ ∀ p ∈ ps.flatten.zip ks.flatten, rowOk p.1 p.2 = true := by
  intro ps
  induction ps with
  | nil => intro ks h; cases ks <;> simp_all [partsOk]
  | cons p ps ih =>
    intro ks h
    cases ks with
    | nil => simp [partsOk] at h
    | cons k ks =>
      simp only [partsOk, Bool.and_eq_true] at h
      obtain ⟨a1, a2⟩ := rowsOk_spec p k h.1
      obtain ⟨b1, b2⟩ := ih ks h.2
      simp only [List.flatten_cons]
      refine ⟨by simp [a1, b1], ?_⟩
      intro q hq
      rw [List.zip_append a1] at hq
      rcases List.mem_append.1 hq with hq | hq
      · exact a2 q hq
      · exact b2 q hq

end Eos.C05
