import EosProofs.Lemmas.MicroBasic
/-! `coverage`: what the calculation of a node reads is enumerated by `rdeps` — completeness of the four
reverse-dependency enumerators of `_revise_regular_attr_dependents`.  The case with content is the resistance
attribute, read on the carrier of the affected item: for an item selected by a projected modifier the carrier is
the recorded target, or the item itself when the fit owns it in space (`carrier_of_selected`). -/
namespace Eos.Micro.L
open Eos.World

/-- A resisted effect (resistance attribute present and non-zero) has only projected modifiers
(`domain = 4`) — the property's own well-formedness clause.  The resistance attribute is read on the *carrier*
of the affected item, and `_revise_regular_attr_dependents` finds the readers of a changed resistance
attribute only through projectors: a resisted local modifier would be read without being enumerated. -/
def ResistWF (u : Universe) : Prop :=
  ∀ e ∈ u.effects, ∀ r, e.resistAttr = some r → r ≠ 0 → ∀ m ∈ e.mods, m.domain = 4

/-- A charge whose container is present sits in a module of its own fit (never in a drone / fighter), so
that its carrier is the ship of its fit.  In eos only `Module` has a `charge` slot (`eos/item/module.py`), and a
charge belongs to its container's fit. -/
def ChargeWF (cfg : Config) : Prop :=
  ∀ x ∈ cfg.items, x.kind.isCharge = true → ∀ p, x.parent.bind (item? cfg) = some p →
    p.kind ≠ .drone ∧ p.kind ≠ .fighter ∧ (p.kind.isModule = true → p.fit = x.fit)

/-- Recorded projection targets are solar-system items (ship, drone, fighter squad): those whose resistance
attribute is their own (`_solsys_carrier`).  eos does not enforce it (`SingleTargetableMixin.target` accepts any
item); fleet boosts are applied to ships. -/
def TgtKinds (cfg : Config) (d : Dyn) : Prop := ∀ a e t, t ∈ targetsOf cfg d a e → t.kind.isSolsys = true

variable {u : Universe} {cfg : Config} {d : Dyn}

theorem resistWF_of_all
    (h : (u.effects.all fun e => e.resistAttr.all fun r => r == 0 || e.mods.all (·.domain == 4)) = true) :
    ResistWF u := fun e he r hr h0 m hm => by
  have := List.all_eq_true.1 h e he
  simp only [hr, Option.all_some, Bool.or_eq_true, beq_iff_eq, h0, false_or, List.all_eq_true] at this
  exact this m hm

theorem chargeWF_of_all
    (h : (cfg.items.all fun x => !x.kind.isCharge || (x.parent.bind (item? cfg)).all fun p =>
      p.kind != .drone && p.kind != .fighter && (!p.kind.isModule || p.fit == x.fit)) = true) :
    ChargeWF cfg := fun x hx hk p hp => by
  have := List.all_eq_true.1 h x hx
  simp only [hk, hp, Bool.not_true, Bool.false_or, Option.all_some, Bool.and_eq_true, bne_iff_ne, ne_eq,
    Bool.or_eq_true, Bool.not_eq_true', beq_iff_eq] at this
  exact ⟨this.1.1, this.1.2, fun hm => this.2.resolve_left (by simp [hm])⟩

theorem solsys_of_all {ts : List Nat}
    (h : (ts.all fun j => (item? cfg j).all (·.kind.isSolsys)) = true) :
    ∀ j ∈ ts, ∀ t, item? cfg j = some t → t.kind.isSolsys = true := fun j hj t ht => by
  have := List.all_eq_true.1 h j hj
  rwa [ht] at this

theorem tgtKinds_of_nil (h : ∀ i e, d.tgts i e = []) : TgtKinds cfg d := fun a e t ht => by
  simp [targetsOf, h] at ht

theorem solsys_excl {k : Kind} (h : k.isSolsys = true) : k.modDomain = none ∧ k.isCharge = false := by
  cases k <;> cases h <;> exact ⟨rfl, rfl⟩

theorem passesFilter_kind {a x : Item} {m : Modifier} {tx : ItemType} (h : passesFilter a m 3 x tx = true) :
    x.kind.modDomain = some 3 ∨ x.kind.ownerModifiable = true := by
  -- an item of another domain that the fit does not own in space fails every filter
  cases hd : (x.kind.modDomain == some 3) with
  | true => exact .inl (by simpa using hd)
  | false =>
    cases ho : x.kind.ownerModifiable with
    | true => exact .inr rfl
    | false =>
      unfold passesFilter at h
      simp only [hd, ho, Bool.false_and, ite_self] at h
      cases h

theorem carrier_of_selected (hU : UniqueIds cfg) (hC : ChargeWF cfg) {a t x c : Item} {m : Modifier}
    {tx : ItemType} (hx : x ∈ cfg.items) (ht : t ∈ cfg.items) (htk : t.kind.isSolsys = true)
    (hsel : affectsProjected cfg a m t x tx = true)
    (hc : Micro.carrierOf cfg x = some c) :
    t.id = c.id ∨ (c = x ∧ x.kind.ownerModifiable = true ∧ shipOf cfg x.fit = some t.id) := by
  unfold affectsProjected at hsel
  split at hsel
  · -- the target itself: in space, its own carrier
    have hxt : x = t := eq_of_nodup_map _ hU hx ht (by simpa using hsel)
    subst hxt
    rcases carrierOf_cases hc with ⟨_, rfl⟩ | ⟨hd, _⟩ | ⟨hk, _⟩
    · exact .inl rfl
    · rw [(solsys_excl htk).1] at hd; cases hd
    · rw [(solsys_excl htk).2] at hk; cases hk
  · -- items aboard the targeted ship / owned by its fit
    simp only [Bool.and_eq_true, beq_iff_eq] at hsel
    obtain ⟨⟨⟨_, hship⟩, hfit⟩, hpass⟩ := hsel
    have hcar : ∀ f, f = t.fit → (shipOf cfg f).bind (item? cfg) = some c → t.id = c.id := fun f hf h =>
      (item?_id (by rwa [hf, hship] at h)).symm
    rcases carrierOf_cases hc with ⟨hs, rfl⟩ | ⟨_, _, h⟩ | ⟨hk, p, hp, h⟩
    · refine .inr ⟨rfl, ?_, hfit ▸ hship⟩
      rcases passesFilter_kind hpass with hd | ho
      · rw [(solsys_excl hs).1] at hd; cases hd
      · exact ho
    · exact .inl (hcar _ hfit h)
    · obtain ⟨hnd, hnf, hmod⟩ := hC x hx hk p hp
      rcases h with ⟨hpk, _⟩ | ⟨hpm, h⟩
      · exact absurd hpk (not_or.2 ⟨hnd, hnf⟩)
      · exact .inl (hcar _ ((hmod hpm).trans hfit) h)

theorem resist_dep (hU : UniqueIds cfg) (hR : ResistWF u) (hT : TgtKinds cfg d) (hC : ChargeWF cfg)
    {x c : Item} {tx : ItemType} {attr r : Int} {s : Spec} (hx : x ∈ cfg.items)
    (hs : s ∈ specsOn u cfg d x tx attr) (hrr : resistRead cfg s.e x = some (c, r)) :
    ∃ a ∈ cfg.items, s ∈ projSpecs u cfg d a ∧ s.e.resistAttr = some r ∧ r ≠ 0 ∧
      ∃ t ∈ targetsOf cfg d a s.e,
        t.id = c.id ∨ (c = x ∧ x.kind.ownerModifiable = true ∧ shipOf cfg x.fit = some t.id) := by
  obtain ⟨⟨ha, hsa⟩, _, hsel⟩ := mem_specsOn.1 hs
  generalize s.a = a at ha hsa
  obtain ⟨hr, h0, hc⟩ := resistRead_some hrr
  rcases List.mem_append.1 hsa with hl | hp
  · obtain ⟨e, he, m, hm, hd, rfl⟩ := mem_localSpecs.1 hl
    exact absurd (hR e (running_mem he).1 r hr h0 m hm) hd
  · refine ⟨a, ha, hp, hr, h0, ?_⟩
    obtain ⟨e, _, _, t, ht, m, _, rfl⟩ := mem_projSpecs.1 hp
    obtain ⟨j, _, hj⟩ := mem_targetsOf.1 ht
    exact ⟨t, ht, carrier_of_selected hU hC hx (item?_mem hj) (hT a e t ht) (Bool.and_eq_true_iff.1 hsel).2 hc⟩

theorem coverage (hU : UniqueIds cfg) (hR : ResistWF u) (hT : TgtKinds cfg d) (hC : ChargeWF cfg)
    {n m : Node} (h : m ∈ deps u cfg d n) : n ∈ rdeps u cfg d m := by
  obtain ⟨x, am, tx, hx, ham, htx, hcase⟩ := deps_mem h
  have hxm := item?_mem hx
  rw [node_eq hx ham]
  rcases hcase with ⟨s, hs, hm | ⟨c, r, hrr, hm⟩⟩ | ⟨hmx, hm1⟩
  · obtain ⟨⟨ha, hsa⟩, htgt, hsel⟩ := mem_specsOn.1 hs
    rw [hm, ← htgt]
    exact mem_rdeps.2 ⟨s.a, item?_of_mem hU ha, .inr (.inl ⟨s, hsa, rfl, x, mem_affectees.2 ⟨hxm, tx, htx, hsel⟩, rfl⟩)⟩
  · obtain ⟨a, ha, hp, hr, h0, t, ht, hid⟩ := resist_dep hU hR hT hC hxm hs hrr
    obtain ⟨_, htgt, hsel⟩ := mem_specsOn.1 hs
    rw [hm, ← htgt]
    exact mem_rdeps.2 ⟨c, item?_of_mem hU (resistRead_mem hxm hrr), .inr (.inr ⟨a, ha, s, hp, hr, h0,
      ⟨t, ht, hid.imp id fun ⟨hcx, h⟩ => hcx ▸ h⟩, x, mem_affectees.2 ⟨hxm, tx, htx, hsel⟩, rfl⟩)⟩
  · rw [show m = (x.id, m.2) from Prod.ext hm1 rfl]
    exact mem_rdeps.2 ⟨x, item?_of_mem hU hxm, .inl ⟨am, attrMeta?_mem ham, hmx, rfl⟩⟩

theorem dep_item_ne (hU : UniqueIds cfg) (hR : ResistWF u) (hT : TgtKinds cfg d) (hC : ChargeWF cfg)
    {i : Nat} (hon : ∀ e, d.on i e = false) (htg : ∀ a e, i ∉ d.tgts a e)
    {n m : Node} (hn : n.1 ≠ i) (h : m ∈ deps u cfg d n) : m.1 ≠ i := by
  obtain ⟨x, am, tx, hx, _, htx, hcase⟩ := deps_mem h
  have hxm := item?_mem hx
  rcases hcase with ⟨s, hs, hm | ⟨c, r, hrr, hm⟩⟩ | ⟨_, hm1⟩
  · have := (mem_running.1 (specsOn_mem hs).2.1).2
    rw [hm]
    intro hi
    rw [show s.a.id = i from hi, hon] at this; cases this
  · obtain ⟨a, _, _, _, _, t, ht, hid⟩ := resist_dep hU hR hT hC hxm hs hrr
    obtain ⟨j, hj, hjt⟩ := mem_targetsOf.1 ht
    rw [hm]
    intro hi
    rcases hid with hid | ⟨rfl, _, _⟩
    · have : j = i := by rw [← item?_id hjt, hid]; exact hi
      exact htg _ _ (this ▸ hj)
    · exact hn (by rw [← item?_id hx]; exact hi)
  · rw [hm1, item?_id hx]; exact hn

end Eos.Micro.L
