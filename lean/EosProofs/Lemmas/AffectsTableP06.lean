import EosGen.AffectsTableP06
namespace Eos.C02
open Eos.AffectsSpec EosGen.AffectsTable

theorem affects_blockP06_ok : projBlockOk blockP06 blockP06Cases blockP06Modified blockP06Valid = true := by decide +kernel

end Eos.C02
