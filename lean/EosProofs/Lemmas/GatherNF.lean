import EosProofs.Lemmas.CalcWorld
/-! A normal form of `Eos.World.gather`: it is one fold, over a flat list of *atoms*, of a step that skips, appends
one modification or fails (`gather_eq_atoms`).  What the development needs to know about `gather` — where a gathered modification
comes from, that every selecting modifier contributes, where an error comes from, invariance under reorderings,
the comparison with the message level — is read off that list and the outcome of a single atom.  The atoms carry
the message level's `Micro.Spec` (affecting item, effect, modifier, projection target), so that the message level's
`gatherD`, a fold over specs, is compared without translation; `immW`, `bmsW`, `specsW`, `boostSpecsW` are the
specification's (`World`) counterparts of `Micro.immuneOf`, `Dyn.bspecs`, `localSpecs`/`projSpecs`. -/
namespace Eos.World
open Eos.Calc Eos.Micro

section fold
variable {σ ε β : Type}

def stepS (out : σ → Except ε (Option β)) (acc : List β) (s : σ) : Except ε (List β) :=
  match out s with
  | .ok none => .ok acc
  | .ok (some b) => .ok (acc ++ [b])
  | .error w => .error w

def errsOf (out : σ → Except ε (Option β)) (l : List σ) : List ε :=
  l.filterMap fun s => match out s with | .error w => some w | .ok _ => none

def oksOf (out : σ → Except ε (Option β)) (l : List σ) : List β :=
  l.filterMap fun s => match out s with | .ok o => o | .error _ => none

theorem foldlM_stepS (out : σ → Except ε (Option β)) (l : List σ) (init : List β) :
    l.foldlM (stepS out) init =
      match errsOf out l with
      | [] => .ok (init ++ oksOf out l)
      | w :: _ => .error w := by
  induction l generalizing init with
  | nil => exact congrArg Except.ok (List.append_nil init).symm
  | cons s l ih =>
    rw [List.foldlM_cons]
    unfold stepS errsOf oksOf
    rw [List.filterMap_cons, List.filterMap_cons]
    cases out s with
    | error w => rfl
    | ok o =>
      cases o with
      | none => exact ih init
      | some b => exact (ih _).trans (by rw [List.append_assoc]; rfl)

theorem mem_errsOf {out : σ → Except ε (Option β)} {l : List σ} {w : ε} :
    w ∈ errsOf out l ↔ ∃ s ∈ l, out s = .error w := by
  unfold errsOf
  rw [List.mem_filterMap]
  refine exists_congr fun s => and_congr_right fun _ => ?_
  cases out s <;> simp [eq_comm]

theorem mem_oksOf {out : σ → Except ε (Option β)} {l : List σ} {b : β} :
    b ∈ oksOf out l ↔ ∃ s ∈ l, out s = .ok (some b) := by
  unfold oksOf
  rw [List.mem_filterMap]
  refine exists_congr fun s => and_congr_right fun _ => ?_
  cases out s <;> simp

theorem foldlM_stepS_eq_ok {out : σ → Except ε (Option β)} {l : List σ} {r : List β} :
    l.foldlM (stepS out) [] = .ok r ↔ (∀ s ∈ l, ∀ w, out s ≠ .error w) ∧ r = oksOf out l := by
  rw [foldlM_stepS]
  cases he : errsOf out l with
  | nil =>
    refine ⟨fun h => ⟨fun s hs w hw => ?_, (Except.ok.inj h).symm⟩, fun h => h.2 ▸ rfl⟩
    exact List.not_mem_nil (he ▸ mem_errsOf.2 ⟨s, hs, hw⟩)
  | cons w ws =>
    obtain ⟨s, hs, hw⟩ := mem_errsOf.1 (he ▸ List.mem_cons_self : w ∈ errsOf out l)
    exact ⟨nofun, fun h => absurd hw (h.1 s hs w)⟩

theorem foldlM_stepS_error {out : σ → Except ε (Option β)} {l : List σ} {w : ε}
    (h : l.foldlM (stepS out) [] = .error w) : ∃ s ∈ l, out s = .error w := by
  rw [foldlM_stepS] at h
  split at h
  · cases h
  · rename_i w' ws hw
    cases h
    exact mem_errsOf.1 (hw ▸ List.mem_cons_self)

/-- Not necessarily the same error: a fold stops at the first one it meets. -/
def _root_.Eos.C08World.RelOut {β ε : Type} (r r' : Except ε (List β)) : Prop :=
  (∃ l l', r = .ok l ∧ r' = .ok l' ∧ l.Perm l') ∨ (∃ w w', r = .error w ∧ r' = .error w')

theorem foldlM_stepS_outs_perm {τ : Type} {out : σ → Except ε (Option β)} {out' : τ → Except ε (Option β)}
    {l : List σ} {l' : List τ} (hp : (l.map out).Perm (l'.map out')) :
    C08World.RelOut (l.foldlM (stepS out) []) (l'.foldlM (stepS out') []) := by
  have he : (errsOf out l).Perm (errsOf out' l') := by
    have := hp.filterMap fun o => match o with | .error w => some w | .ok _ => none
    rwa [List.filterMap_map, List.filterMap_map] at this
  have hk : (oksOf out l).Perm (oksOf out' l') := by
    have := hp.filterMap fun o => match o with | .ok o => o | .error _ => none
    rwa [List.filterMap_map, List.filterMap_map] at this
  rw [foldlM_stepS, foldlM_stepS]
  cases h1 : errsOf out l with
  | nil =>
    rw [h1] at he
    rw [← he.nil_eq]
    exact Or.inl ⟨_, _, rfl, rfl, by simpa using hk⟩
  | cons w ws =>
    cases h2 : errsOf out' l' with
    | nil => rw [h1, h2] at he; cases he.eq_nil
    | cons w' ws' => exact Or.inr ⟨w, w', rfl, rfl⟩

theorem foldlM_stepS_perm {out out' : σ → Except ε (Option β)} {l l' : List σ} (hp : l.Perm l')
    (ho : ∀ s ∈ l, out s = out' s) :
    C08World.RelOut (l.foldlM (stepS out) []) (l'.foldlM (stepS out') []) :=
  foldlM_stepS_outs_perm (by rw [List.map_congr_left ho]; exact hp.map _)

end fold

variable (u : Universe) (cfg : Config)

/-- What `gather` meets on its way: an affector spec, or — once per running fleet-boost effect of `a` — the
reading of `a`'s warfare-buff attributes. -/
inductive GAtom
  | spec (s : Spec)
  | buffs (a : Item)

def immW (immune : List Int) (a : Item) : Bool :=
  match itemType? u cfg a with
  | some ta => (match ta.category with | some c => immune.contains c | none => false)
  | none => false

def bmsW (rd : Reader) (attr : Int) (a : Item) : Except Val (List Modifier) :=
  if u.buffs.any (·.tgtAttr == attr) then buffModifiers u rd a else pure []

/-- `bmsW` as a list, an error read as "none".  Sound only in `effAtoms`, where the atom `.buffs a` comes before the
boost specs built from this list: if `bmsW` fails, the fold has failed at that atom and never reaches them. -/
def bmsOf (rd : Reader) (attr : Int) (a : Item) : List Modifier :=
  match bmsW u rd attr a with
  | .ok B => B
  | .error _ => []

def specOut (rd : Reader) (x : Item) (imm : Item → Bool) (s : Spec) : Except Val (Option Mod) :=
  match rd s.a s.m.srcAttr with
  | .absent => .ok none
  | .ok v => (match resistOf cfg rd s.e x with
    | .ok r => .ok (some { op := s.m.op, value := v, resist := r, agg := s.m.agg, aggKey := s.m.aggKey,
                            immune := imm s.a })
    | w => .error w)
  | w => .error w

def atomOut (immune : List Int) (rd : Reader) (x : Item) (attr : Int) : GAtom → Except Val (Option Mod)
  | .spec s => specOut cfg rd x (immW u cfg immune) s
  | .buffs a => match bmsW u rd attr a with | .ok _ => .ok none | .error w => .error w

def specsW (x : Item) (tx : ItemType) (attr : Int) (a : Item) (e : Effect) : List Spec :=
  (e.mods.filter fun m => m.tgtAttr == attr && affectsLocal cfg a m x tx).map (fun m => ⟨a, e, m, none⟩) ++
  (projectionTargets cfg a e).flatMap fun tg =>
    (e.mods.filter fun m => m.domain == 4 && m.tgtAttr == attr && affectsProjected cfg a m tg x tx).map
      fun m => ⟨a, e, m, some tg⟩

def boostSpecsW (x : Item) (tx : ItemType) (attr : Int) (bms : List Modifier) (a : Item) (e : Effect) : List Spec :=
  (boostTargets cfg a.fit).flatMap fun tg =>
    ((bms ++ e.mods.filter (·.domain == 4)).filter fun m =>
      m.tgtAttr == attr && affectsProjected cfg a m tg x tx).map fun m => ⟨a, e, m, some tg⟩

def effAtoms (rd : Reader) (x : Item) (tx : ItemType) (attr : Int) (a : Item) (e : Effect) : List GAtom :=
  (specsW cfg x tx attr a e).map .spec ++
    if e.isBuff then .buffs a :: (boostSpecsW cfg x tx attr (bmsOf u rd attr a) a e).map .spec else []

def gatherAtoms (rd : Reader) (x : Item) (tx : ItemType) (attr : Int) : List GAtom :=
  cfg.items.flatMap fun a => (runningEffects u cfg a).flatMap (effAtoms u cfg rd x tx attr a)

variable {u cfg}

theorem immW_eq {immune : List Int} {a : Item} {ta : ItemType} (hta : itemType? u cfg a = some ta) :
    immW u cfg immune a = (match ta.category with | some c => immune.contains c | none => false) := by
  unfold immW; rw [hta]

theorem stepS_spec {immune : List Int} {rd : Reader} {x a : Item} {ta : ItemType} {attr : Int}
    (hta : itemType? u cfg a = some ta) (e : Effect) (m : Modifier) (tg : Option Item) (acc : List Mod) :
    stepS (atomOut u cfg immune rd x attr) acc (.spec ⟨a, e, m, tg⟩) =
      mkMod cfg rd x a e (match ta.category with | some c => immune.contains c | none => false) m acc := by
  unfold mkMod stepS atomOut specOut immW
  dsimp only
  rw [hta]
  dsimp only
  cases rd a m.srcAttr <;> try rfl
  cases resistOf cfg rd e x <;> rfl

theorem effStep_eq_atoms {immune : List Int} {rd : Reader} {x : Item} {tx : ItemType} {attr : Int} {a : Item}
    {ta : ItemType} (hta : itemType? u cfg a = some ta) (e : Effect) (acc : List Mod) :
    effStep u cfg immune rd x tx attr a ta acc e =
      (effAtoms u cfg rd x tx attr a e).foldlM (stepS (atomOut u cfg immune rd x attr)) acc := by
  unfold effStep effAtoms specsW
  simp only [List.foldlM_append, List.foldlM_map, foldlM_flatMap, stepS_spec hta, bind_assoc]
  refine bind_congr fun acc1 => bind_congr fun acc2 => ?_
  cases e.isBuff with
  | false => rfl
  | true =>
    show (bmsW u rd attr a >>= _) = _
    unfold boostSpecsW bmsOf
    rw [if_pos rfl, List.foldlM_cons]
    cases hB : bmsW u rd attr a with
    | error w => simp [stepS, atomOut, hB, bind, Except.bind]
    | ok B =>
      have hs : stepS (atomOut u cfg immune rd x attr) acc2 (.buffs a) = .ok acc2 := by
        simp only [stepS, atomOut, hB]
      simp only [hs, foldlM_flatMap, List.foldlM_map, stepS_spec hta]
      rfl

theorem gather_eq_atoms (immune : List Int) (rd : Reader) (x : Item) (tx : ItemType) (attr : Int) :
    gather u cfg immune rd x tx attr =
      (gatherAtoms u cfg rd x tx attr).foldlM (stepS (atomOut u cfg immune rd x attr)) [] := by
  unfold gatherAtoms
  rw [gather_eq, foldlM_flatMap]
  congr 1; funext acc a
  cases hta : itemType? u cfg a with
  | none => simp [runningEffects, hta, pure, Except.pure]
  | some ta => rw [foldlM_flatMap, ← funext fun acc => funext fun e => effStep_eq_atoms hta e acc]

theorem mem_gatherAtoms {rd : Reader} {x : Item} {tx : ItemType} {attr : Int} {t : GAtom} :
    t ∈ gatherAtoms u cfg rd x tx attr ↔
      ∃ a ∈ cfg.items, ∃ e ∈ runningEffects u cfg a, t ∈ effAtoms u cfg rd x tx attr a e := by
  simp only [gatherAtoms, List.mem_flatMap]

theorem specOut_some {rd : Reader} {x : Item} {imm : Item → Bool} {s : Spec} {md : Mod} :
    specOut cfg rd x imm s = .ok (some md) ↔
      ∃ v r, rd s.a s.m.srcAttr = .ok v ∧ resistOf cfg rd s.e x = .ok r ∧
        md = { op := s.m.op, value := v, resist := r, agg := s.m.agg, aggKey := s.m.aggKey, immune := imm s.a } := by
  unfold specOut
  constructor
  · intro h
    split at h
    · cases h
    · rename_i v hv
      split at h
      · rename_i r hr; cases h; exact ⟨v, r, hv, hr, rfl⟩
      · cases h
    · cases h
  · rintro ⟨v, r, hv, hr, rfl⟩
    rw [hv, hr]

theorem specOut_of_src {rd : Reader} {x : Item} {imm : Item → Bool} {s : Spec} {v : Rat}
    (hv : rd s.a s.m.srcAttr = .ok v) (hne : ∀ w, specOut cfg rd x imm s ≠ .error w) :
    ∃ r, resistOf cfg rd s.e x = .ok r ∧ specOut cfg rd x imm s =
      .ok (some { op := s.m.op, value := v, resist := r, agg := s.m.agg, aggKey := s.m.aggKey, immune := imm s.a }) := by
  unfold specOut at hne ⊢
  rw [hv] at hne ⊢
  cases hr : resistOf cfg rd s.e x <;> simp [hr] at hne ⊢

theorem specOut_error {rd : Reader} {x : Item} {imm : Item → Bool} {s : Spec} {w : Val}
    (h : specOut cfg rd x imm s = .error w) :
    IsErr w ∧ (rd s.a s.m.srcAttr = w ∨
      ∃ c r, s.e.resistAttr = some r ∧ r ≠ 0 ∧ (c = x ∨ c ∈ cfg.items) ∧ rd c r = w) := by
  unfold specOut at h
  split at h
  · cases h
  · split at h
    · cases h
    · rename_i hok
      cases h
      rcases resistOf_cases (cfg := cfg) rd s.e x with h1 | ⟨c, r, hr, h0, hc, h1, hna⟩
      · exact absurd h1 (hok 1)
      · exact ⟨isErr_of_ne (h1 ▸ hna) hok, .inr ⟨c, r, hr, h0, hc, h1⟩⟩
  · rename_i habs hok
    cases h
    exact ⟨isErr_of_ne habs hok, .inl rfl⟩

theorem specOut_isErrOf {rd : Reader} {x : Item} {imm : Item → Bool} {s : Spec} {w : Val}
    (h : specOut cfg rd x imm s = .error w) : IsErrOf rd w := by
  obtain ⟨hk, hs | ⟨c, r, _, _, _, hs⟩⟩ := specOut_error h
  · exact ⟨hk, _, _, hs⟩
  · exact ⟨hk, _, _, hs⟩

theorem atomOut_error {immune : List Int} {rd : Reader} {x : Item} {attr : Int} {t : GAtom} {w : Val}
    (h : atomOut u cfg immune rd x attr t = .error w) :
    IsErr w ∧
    ((∃ s, t = .spec s ∧ (rd s.a s.m.srcAttr = w ∨
        ∃ c r, s.e.resistAttr = some r ∧ r ≠ 0 ∧ (c = x ∨ c ∈ cfg.items) ∧ rd c r = w)) ∨
     (∃ a, t = .buffs a ∧ u.buffs.any (·.tgtAttr == attr) = true ∧ ∃ p ∈ buffIdAttrs, rd a p = w)) := by
  cases t with
  | spec s => exact ⟨(specOut_error h).1, Or.inl ⟨s, rfl, (specOut_error h).2⟩⟩
  | buffs a =>
    cases hb : bmsW u rd attr a <;> simp only [atomOut, hb] at h <;> cases h
    unfold bmsW at hb
    split at hb
    · exact ⟨(buffModifiers_error hb).1, Or.inr ⟨a, rfl, ‹_›, (buffModifiers_error hb).2⟩⟩
    · cases hb

theorem mem_bmsOf_tgt {rd : Reader} {attr : Int} {a : Item} {m : Modifier} (hm : m.tgtAttr = attr) :
    m ∈ bmsOf u rd attr a ↔ ∃ bms, buffModifiers u rd a = .ok bms ∧ m ∈ bms := by
  unfold bmsOf bmsW
  by_cases hany : u.buffs.any (·.tgtAttr == attr) = true
  · rw [if_pos hany]
    cases buffModifiers u rd a <;> simp
  · rw [if_neg hany]
    refine ⟨fun h => (by cases h), fun ⟨bms, h, hmb⟩ => ?_⟩
    exact absurd (hm ▸ (bspecOK_iff.1 (buffModifiers_ok h m hmb)).2.2) hany

/-- Nothing is lost when no template targets `attr`: every built modifier targets a template's attribute. -/
theorem bmsOf_of_ok {rd : Reader} {a : Item} {bms : List Modifier} (attr : Int)
    (h : buffModifiers u rd a = .ok bms) :
    bmsW u rd attr a = .ok (bmsOf u rd attr a) ∧
      (bmsOf u rd attr a).filter (·.tgtAttr == attr) = bms.filter (·.tgtAttr == attr) := by
  unfold bmsOf bmsW
  by_cases hany : u.buffs.any (·.tgtAttr == attr) = true
  · rw [if_pos hany, h]
    exact ⟨rfl, rfl⟩
  · rw [if_neg hany]
    refine ⟨rfl, (List.filter_eq_nil_iff.2 fun m hm hmt => hany ?_).symm⟩
    rw [← beq_iff_eq.1 hmt]
    exact (bspecOK_iff.1 (buffModifiers_ok h m hm)).2.2

theorem spec_mem_effAtoms {rd : Reader} {x : Item} {tx : ItemType} {attr : Int} {a a' : Item} {e e' : Effect}
    {m : Modifier} : (∃ tg, GAtom.spec ⟨a', e', m, tg⟩ ∈ effAtoms u cfg rd x tx attr a e) ↔
      a' = a ∧ e' = e ∧ m.tgtAttr = attr ∧ Selects u cfg rd x tx a e m := by
  -- `effAtoms` has three summands (local specs, specs per projection target, boost specs per boosted ship):
  -- membership is one disjunct for each, and these are the three disjuncts of `Selects`
  simp only [effAtoms, List.mem_append, List.mem_map, GAtom.spec.injEq, exists_eq_right, List.mem_ite_nil_right,
    List.mem_cons, reduceCtorEq, false_or]
  simp only [specsW, boostSpecsW, List.mem_append, List.mem_map, List.mem_flatMap, List.mem_filter,
    Bool.and_eq_true, beq_iff_eq]
  constructor
  · rintro ⟨tg, (⟨m', ⟨hm, ht, hl⟩, ⟨⟩⟩ | ⟨t, ht, m', ⟨hm, ⟨hd, hta⟩, hp⟩, ⟨⟩⟩) |
      ⟨hb, t, ht, m', ⟨hsrc, hta, hp⟩, ⟨⟩⟩⟩
    · exact ⟨rfl, rfl, ht, Or.inl ⟨hm, hl⟩⟩
    · exact ⟨rfl, rfl, hta, Or.inr (Or.inl ⟨hm, hd, t, ht, hp⟩)⟩
    · exact ⟨rfl, rfl, hta, Or.inr (Or.inr ⟨hb, hsrc.imp_left (mem_bmsOf_tgt hta).1, t, ht, hp⟩)⟩
  · rintro ⟨rfl, rfl, ht, ⟨hm, hl⟩ | ⟨hm, hd, t, htg, hp⟩ | ⟨hb, hsrc, t, htg, hp⟩⟩
    · exact ⟨none, Or.inl (Or.inl ⟨m, ⟨hm, ht, hl⟩, rfl⟩)⟩
    · exact ⟨some t, Or.inl (Or.inr ⟨t, htg, m, ⟨hm, ⟨hd, ht⟩, hp⟩, rfl⟩)⟩
    · exact ⟨some t, Or.inr ⟨hb, t, htg, m, ⟨hsrc.imp_left (mem_bmsOf_tgt ht).2, ht, hp⟩, rfl⟩⟩

theorem buffs_mem_effAtoms {rd : Reader} {x : Item} {tx : ItemType} {attr : Int} {a b : Item} {e : Effect} :
    GAtom.buffs b ∈ effAtoms u cfg rd x tx attr a e ↔ b = a ∧ e.isBuff = true := by
  simp [effAtoms, and_comm]

theorem gather_prov {immune : List Int} {rd : Reader} {x : Item} {tx : ItemType} {attr : Int}
    {mods : List Mod} (h : gather u cfg immune rd x tx attr = .ok mods) :
    ∀ md ∈ mods, ∃ a ∈ cfg.items, ∃ ta, itemType? u cfg a = some ta ∧ ∃ e ∈ runningEffects u cfg a, ∃ m : Modifier,
      m.tgtAttr = attr ∧ rd a m.srcAttr = .ok md.value ∧ resistOf cfg rd e x = .ok md.resist ∧
      md.op = m.op ∧ md.agg = m.agg ∧ md.aggKey = m.aggKey ∧
      md.immune = (match ta.category with | some c => immune.contains c | none => false) ∧
      Selects u cfg rd x tx a e m := by
  obtain ⟨-, rfl⟩ := foldlM_stepS_eq_ok.1 (gather_eq_atoms immune rd x tx attr ▸ h)
  intro md hmd
  obtain ⟨t, ht, ho⟩ := mem_oksOf.1 hmd
  obtain ⟨a, ha, e, he, hte⟩ := mem_gatherAtoms.1 ht
  cases t with
  | buffs b => simp only [atomOut] at ho; split at ho <;> cases ho
  | spec s =>
    obtain ⟨rfl, rfl, hm, hsel⟩ := spec_mem_effAtoms.1 ⟨_, hte⟩
    obtain ⟨v, r, hv, hr, rfl⟩ := specOut_some.1 ho
    obtain ⟨ta, hta⟩ := itemType?_of_running he
    exact ⟨_, ha, ta, hta, _, he, s.m, hm, hv, hr, rfl, rfl, rfl, immW_eq hta, hsel⟩

theorem gather_complete {immune : List Int} {rd : Reader} {x : Item} {tx : ItemType} {attr : Int}
    {mods : List Mod} (h : gather u cfg immune rd x tx attr = .ok mods)
    {a : Item} (ha : a ∈ cfg.items) {ta : ItemType} (hta : itemType? u cfg a = some ta)
    {e : Effect} (he : e ∈ runningEffects u cfg a) {m : Modifier} (hm : m.tgtAttr = attr)
    {v : Rat} (hv : rd a m.srcAttr = .ok v) (hsel : Selects u cfg rd x tx a e m) :
    ∃ r, resistOf cfg rd e x = .ok r ∧
      ({ op := m.op, value := v, resist := r, agg := m.agg, aggKey := m.aggKey,
         immune := (match ta.category with | some c => immune.contains c | none => false) } : Mod) ∈ mods := by
  obtain ⟨hne, rfl⟩ := foldlM_stepS_eq_ok.1 (gather_eq_atoms immune rd x tx attr ▸ h)
  obtain ⟨tg, hte⟩ := spec_mem_effAtoms.2 ⟨rfl, rfl, hm, hsel⟩
  have ht := mem_gatherAtoms.2 ⟨a, ha, e, he, hte⟩
  obtain ⟨r, hr, ho⟩ := specOut_of_src (s := ⟨a, e, m, tg⟩) hv (hne _ ht)
  refine ⟨r, hr, mem_oksOf.2 ⟨_, ht, ?_⟩⟩
  exact ho.trans (by rw [immW_eq hta])

theorem gather_error {immune : List Int} {rd : Reader} {x : Item} {tx : ItemType} {attr : Int} {w : Val}
    (h : gather u cfg immune rd x tx attr = .error w) :
    ∃ a ∈ cfg.items, ∃ e ∈ runningEffects u cfg a, ∃ t ∈ effAtoms u cfg rd x tx attr a e,
      atomOut u cfg immune rd x attr t = .error w := by
  obtain ⟨t, ht, ho⟩ := foldlM_stepS_error (gather_eq_atoms immune rd x tx attr ▸ h)
  obtain ⟨a, ha, e, he, hte⟩ := mem_gatherAtoms.1 ht
  exact ⟨a, ha, e, he, t, hte, ho⟩

theorem gather_err_kind {immune : List Int} {rd : Reader} {x : Item} {tx : ItemType} {attr : Int} {w : Val}
    (h : gather u cfg immune rd x tx attr = .error w) : IsErr w := by
  obtain ⟨_, _, _, _, _, _, ho⟩ := gather_error h
  exact (atomOut_error ho).1

theorem valueOf_absent_iff (immune limited : List Int) (pen : Nat → Rat) (rd : Reader) (x : Item)
    (am : AttrMeta) :
    valueOf u cfg immune limited pen rd x am = .absent ↔
      if x.kind = .skill ∧ am.id = 280 then x.level = none
      else ∀ tx, itemType? u cfg x = some tx → baseOf tx am = none := by
  rw [valueOf_eq]; unfold valueWith
  by_cases hs : x.kind = .skill ∧ am.id = 280
  · rw [if_pos (by simpa using hs), if_pos hs]
    cases x.level <;> simp
  · rw [if_neg (by simpa using hs), if_neg hs]
    cases ht : itemType? u cfg x with
    | none => simp
    | some tx =>
      simp only [Option.some.injEq, forall_eq']
      cases hb : baseOf tx am with
      | none => simp
      | some b =>
        simp only [reduceCtorEq, iff_false]
        cases hg : gather u cfg immune rd x tx am.id with
        | error w => exact (gather_err_kind hg).ne_absent
        | ok mods =>
          cases hc : capOf rd x am with
          | error w => exact (capOf_error hc).1.ne_absent
          | ok cap =>
            dsimp only
            split <;> simp

end Eos.World
