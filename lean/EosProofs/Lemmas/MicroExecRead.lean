import EosModel.WorldMicroExec
import EosProofs.Lemmas.MicroAssembly
/-! The executable read `readNode` (`EosModel/WorldMicroExec.lean`; what `attrs[a]` does) against the abstract machine.
`readNode` recurses on fuel.  Its body with the recursive call abstracted as `rd` is re-stated here in three pieces
(`gstep`, `readCalc`, `readBody`; `readNode_succ` ties them to the model by `rfl`) and analysed once: if `rd` is a good
read at every dependency, the body is a good read.  The analysis is relative to any fixed point `σ` of the local
evaluation `evalD`, so that it mentions no graph; `readCtx_world` / `invR_of_inv` instantiate `σ` with the from-scratch
values. -/
namespace Eos.Micro
open Eos.World Eos.Calc Eos.DepCache Eos.Machine Eos.Micro.L

variable {u : Universe} {cfg : Config} {d : Dyn}

variable (u) (immune limited : List Int) (pen : Nat → Rat)

def modOf (u : Universe) (immune : List Int) (d : Dyn) (sp : Spec) (v rr : Rat) : Calc.Mod :=
  { op := sp.m.op, value := v, resist := rr, agg := sp.m.agg, aggKey := sp.m.aggKey,
    immune := immuneOf u d immune sp.a }

def gstep (rd : Cache → Item → Int → Cache × Val) (cfg : Config) (d : Dyn) (y : Item)
    (st : Cache × Except Val (List Calc.Mod)) (sp : Spec) : Cache × Except Val (List Calc.Mod) :=
  match st.2 with
  | .error _ => st
  | .ok l =>
    let r1 := rd st.1 sp.a sp.m.srcAttr
    match r1.2 with
    | .absent => (r1.1, .ok l)
    | .ok v =>
      (match resistRead cfg sp.e y with
      | none => (r1.1, .ok (l ++ [modOf u immune d sp v 1]))
      | some (c, r) =>
        let r2 := rd r1.1 c r
        match r2.2 with
        | .ok rr => (r2.1, .ok (l ++ [modOf u immune d sp v rr]))
        | .absent => (r2.1, .ok (l ++ [modOf u immune d sp v 1]))
        | e => (r2.1, .error e))
    | e => (r1.1, .error e)

def readCalc (rd : Cache → Item → Int → Cache × Val) (cfg : Config) (d : Dyn) (K : Cache) (y : Item) (a : Int)
    (am : AttrMeta) (ty : ItemType) (b : Rat) : Cache × Val :=
  let g := (specsOn u cfg d y ty am.id).foldl (gstep u immune rd cfg d y) (K, Except.ok [])
  match g.2 with
  | .error e => (g.1, e)
  | .ok mods =>
    match normAll am.stackable mods with
    | .error _ => (g.1, .divZero)
    | .ok _ =>
    let c : Cache × Except Val (Option Rat) := match am.maxAttr with
      | none => (g.1, .ok none)
      | some mx =>
        let r3 := rd g.1 y mx
        match r3.2 with
        | .ok cv => (r3.1, .ok (some cv))
        | .absent => (r3.1, .ok none)
        | e => (r3.1, .error e)
    match c.2 with
    | .error e => (c.1, e)
    | .ok cap =>
      match calculate pen am.stackable am.hig b mods cap (limited.contains am.id) with
      | .ok v => ((fun k => if k = (y.id, a) then some v else c.1 k), .ok v)
      | .error _ => (c.1, .divZero)

def readBody (rd : Cache → Item → Int → Cache × Val) (cfg : Config) (d : Dyn) (K : Cache) (y : Item) (a : Int) :
    Cache × Val :=
  if y.kind == .skill && a == 280 then (K, match y.level with | some l => .ok l | none => .absent)
  else match attrMeta? u a with
  | none => (K, .absent)
  | some am =>
    match K (y.id, a) with
    | some v => (K, .ok v)
    | none =>
      match typeOf? u d y with
      | none => (K, .absent)
      | some ty =>
        match baseOf ty am with
        | none => (K, .absent)
        | some b => readCalc u immune limited pen rd cfg d K y a am ty b

/-- The proof by `rfl` is the check that `gstep`, `readCalc`, `readBody` are the body of `readNode` as the model file
has it. -/
theorem readNode_succ (f : Nat) (cfg : Config) (d : Dyn) (K : Cache) (y : Item) (a : Int) :
    readNode u immune limited pen (f + 1) cfg d K y a =
      readBody u immune limited pen (readNode u immune limited pen f cfg d) cfg d K y a := by
  rfl

variable {u immune limited pen}

/-! `σ` is a valuation of the nodes, below always a fixed point of `evalD` (`ReadCtx.fix`).  `Coh` and `ClosedV` are
the two parts of `DepCache.Inv` for it (`invR_of_inv`; `Stored` asks nothing of a dependency that is not `valued`, which
`depsV` leaves out), `Le` says that a read only adds entries. -/

def Coh (σ : Node → Option Rat) (K : Cache) : Prop := ∀ n v, K n = some v → σ n = some v
def Le (K K' : Cache) : Prop := ∀ n v, K n = some v → K' n = some v
def Stored (u : Universe) (cfg : Config) (σ : Node → Option Rat) (K : Cache) (m : Node) : Prop :=
  valued u cfg m = true → σ m ≠ none → K m ≠ none
def ClosedV (u : Universe) (cfg : Config) (d : Dyn) (σ : Node → Option Rat) (K : Cache) : Prop :=
  ∀ n, K n ≠ none → ∀ m ∈ deps u cfg d n, Stored u cfg σ K m

/-- Whenever the source attribute of a resisted affector spec reads as absent, the resistance attribute has
no value either.  `get_modifications` (and `readNode`) read the resistance attribute only after the source
attribute had a value, while `deps` lists it unconditionally: without this a read can cache a node and leave
a valued dependency of it uncached. -/
def ResistSrcOK (u : Universe) (cfg : Config) (d : Dyn) (σ : Node → Option Rat) : Prop :=
  ∀ x ∈ cfg.items, ∀ tx, typeOf? u d x = some tx → ∀ attr, ∀ s ∈ specsOn u cfg d x tx attr, ∀ c r,
    resistRead cfg s.e x = some (c, r) → readerOf u σ s.a s.m.srcAttr = .absent → σ (c.id, r) = none

structure ReadCtx (u : Universe) (immune limited : List Int) (pen : Nat → Rat) (cfg : Config) (d : Dyn)
    (σ : Node → Option Rat) : Prop where
  uniq : UniqueIds cfg
  wf : rankWF u = true
  fix : ∀ n, σ n = evalD u cfg d immune limited pen n σ
  ef : ∀ x ∈ cfg.items, ∀ am ∈ u.attrs, valueOfD u cfg d immune limited pen (readerOf u σ) x am ≠ .divZero

/-- The closedness part is kept only under `ResistSrcOK`, without which a read loses it (`gapU` below). -/
def InvR (u : Universe) (cfg : Config) (d : Dyn) (σ : Node → Option Rat) (K : Cache) : Prop :=
  Coh σ K ∧ (ResistSrcOK u cfg d σ → ClosedV u cfg d σ K)

def GoodRead (u : Universe) (cfg : Config) (d : Dyn) (σ : Node → Option Rat) (K : Cache) (y : Item)
    (a : Int) (r : Cache × Val) : Prop :=
  r.2 = readerOf u σ y a ∧ InvR u cfg d σ r.1 ∧ Le K r.1 ∧ Stored u cfg σ r.1 (y.id, a)

/-- Enough fuel for attribute `a`: one unit for the node itself on top of its position in `u.attrs` (positions
decrease along dependencies, `rankWF`), and one more so that a dependency without metadata, which is answered
`.absent` without recursion, still finds fuel left instead of the `.notWF` of fuel 0. -/
def FuelOK (u : Universe) (f : Nat) (a : Int) : Prop :=
  0 < f ∧ ((attrMeta? u a).isSome = true → (u.attrs.map (·.id)).idxOf a + 2 ≤ f)

def GoodOnDeps (u : Universe) (cfg : Config) (d : Dyn) (σ : Node → Option Rat)
    (rd : Cache → Item → Int → Cache × Val) (y : Item) (a : Int) : Prop :=
  ∀ Kc x b, InvR u cfg d σ Kc → x ∈ cfg.items → (x.id, b) ∈ deps u cfg d (y.id, a) →
    GoodRead u cfg d σ Kc x b (rd Kc x b)

variable {σ : Node → Option Rat}

theorem Le.refl (K : Cache) : Le K K := fun _ _ h => h
theorem Le.trans {K K' K'' : Cache} (h : Le K K') (h' : Le K' K'') : Le K K'' := fun n v hn => h' n v (h n v hn)
theorem Le.ne_none {K K' : Cache} (h : Le K K') {n : Node} (hn : K n ≠ none) : K' n ≠ none := by
  cases hk : K n with
  | none => exact absurd hk hn
  | some v => rw [h n v hk]; exact Option.some_ne_none v
theorem Stored.mono {K K' : Cache} {m : Node} (h : Stored u cfg σ K m) (hl : Le K K') : Stored u cfg σ K' m :=
  fun hv hs => hl.ne_none (h hv hs)

def FoldGood (u : Universe) (immune : List Int) (cfg : Config) (d : Dyn) (σ : Node → Option Rat)
    (rd : Cache → Item → Int → Cache × Val) (y : Item) (Kc : Cache) (l0 : List Calc.Mod) (l : List Spec) :
    Prop :=
  ∃ K' mods, l.foldl (gstep u immune rd cfg d y) (Kc, .ok l0) = (K', .ok mods) ∧
    l.foldlM (stepS (specOut cfg (readerOf u σ) y (immuneOf u d immune))) l0 = .ok mods ∧
    InvR u cfg d σ K' ∧ Le Kc K' ∧
    ∀ sp ∈ l, Stored u cfg σ K' (sp.a.id, sp.m.srcAttr) ∧
      (ResistSrcOK u cfg d σ → ∀ c r, resistRead cfg sp.e y = some (c, r) → Stored u cfg σ K' (c.id, r))

/-- One spec costs at most two recursive reads, the source attribute and — only if the source has a value and the
effect is resisted — the resistance attribute on the carrier.  Four cases (source absent; no resistance read;
resistance absent; resistance a number), each handing the state it reaches to `tail`, the induction hypothesis.
Only the first needs `ResistSrcOK`: there the resistance attribute is a dependency that was not read. -/
theorem fold_good (C : ReadCtx u immune limited pen cfg d σ) (rd : Cache → Item → Int → Cache × Val) {y : Item}
    {a : Int} {am : AttrMeta} {tx : ItemType} (hy : y ∈ cfg.items) (ha : attrMeta? u a = some am)
    (hs : (y.kind == .skill && am.id == 280) = false) (ht : typeOf? u d y = some tx)
    (hrd : GoodOnDeps u cfg d σ rd y a) :
    ∀ (l : List Spec), (∀ sp ∈ l, sp ∈ specsOn u cfg d y tx am.id) → ∀ (Kc : Cache) (l0 : List Calc.Mod),
      InvR u cfg d σ Kc → FoldGood u immune cfg d σ rd y Kc l0 l := by
  have hyid : item? cfg (y.id, a).1 = some y := item?_of_mem C.uniq hy
  intro l
  induction l with
  | nil => intro _ Kc l0 hK; exact ⟨Kc, l0, rfl, rfl, hK, Le.refl _, fun _ h => by cases h⟩
  | cons sp l ih =>
    intro hl Kc l0 hK
    have hsp := hl sp List.mem_cons_self
    have hdep1 : (sp.a.id, sp.m.srcAttr) ∈ deps u cfg d (y.id, a) :=
      (mem_deps_iff hyid ha hs ht).2 (Or.inl ⟨sp, hsp, Or.inl rfl⟩)
    obtain ⟨h1v, h1i, h1l, h1s⟩ := hrd Kc sp.a sp.m.srcAttr hK (specsOn_mem hsp).1 hdep1
    -- the tail, from any state reached by the head
    have tail : ∀ (K1 : Cache) (l1 : List Calc.Mod), InvR u cfg d σ K1 → Le Kc K1 →
        Stored u cfg σ K1 (sp.a.id, sp.m.srcAttr) →
        (ResistSrcOK u cfg d σ → ∀ c r, resistRead cfg sp.e y = some (c, r) → Stored u cfg σ K1 (c.id, r)) →
        gstep u immune rd cfg d y (Kc, .ok l0) sp = (K1, .ok l1) →
        stepS (specOut cfg (readerOf u σ) y (immuneOf u d immune)) l0 sp = .ok l1 →
        FoldGood u immune cfg d σ rd y Kc l0 (sp :: l) := by
      intro K1 l1 hK1 hle hst1 hst2 hg1 hg2
      obtain ⟨K', mods, e1, e2, e3, e4, e5⟩ := ih (fun sp' h => hl sp' (List.mem_cons_of_mem _ h)) K1 l1 hK1
      refine ⟨K', mods, by rw [List.foldl_cons, hg1]; exact e1, by rw [List.foldlM_cons, hg2]; exact e2, e3,
        hle.trans e4, fun sp' hsp' => ?_⟩
      rcases List.mem_cons.1 hsp' with rfl | hsp'
      · exact ⟨hst1.mono e4, fun hp c r hr => (hst2 hp c r hr).mono e4⟩
      · exact e5 sp' hsp'
    rcases readerOf_ok_or_absent (u := u) σ sp.a sp.m.srcAttr with hab | ⟨v, hv⟩
    · -- source absent: the resistance attribute is not read
      refine tail _ l0 h1i h1l h1s (fun hp c r hr hval hne => absurd (hp y hy tx ht am.id sp hsp c r hr hab) hne)
        ?_ ?_
      · unfold gstep; simp only [h1v, hab]
      · rw [stepS_specOut]; simp only [hab]
    · cases hr : resistRead cfg sp.e y with
      | none =>
        refine tail _ (l0 ++ [modOf u immune d sp v 1]) h1i h1l h1s (fun _ c r hr' => by rw [hr] at hr'; cases hr')
          ?_ ?_
        · unfold gstep modOf; simp only [h1v, hv, hr]
        · rw [stepS_specOut]; unfold resistD modOf; simp only [hv, hr]
      | some p =>
        obtain ⟨c, r⟩ := p
        have hcm : c ∈ cfg.items :=
          (carrierOf_mem (cfg := cfg) (x := y) (resistRead_some hr).2.2).elim (fun e => e ▸ hy) id
        have hdep2 : (c.id, r) ∈ deps u cfg d (y.id, a) :=
          (mem_deps_iff hyid ha hs ht).2 (Or.inl ⟨sp, hsp, Or.inr ⟨c, r, hr, rfl⟩⟩)
        obtain ⟨h2v, h2i, h2l, h2s⟩ := hrd (rd Kc sp.a sp.m.srcAttr).1 c r h1i hcm hdep2
        have hst2 : ResistSrcOK u cfg d σ → ∀ c' r', resistRead cfg sp.e y = some (c', r') →
            Stored u cfg σ (rd (rd Kc sp.a sp.m.srcAttr).1 c r).1 (c'.id, r') := by
          intro _ c' r' hr'
          rw [hr] at hr'; cases hr'; exact h2s
        rcases readerOf_ok_or_absent (u := u) σ c r with hab2 | ⟨rr, hv2⟩
        · refine tail _ (l0 ++ [modOf u immune d sp v 1]) h2i (h1l.trans h2l) (h1s.mono h2l) hst2 ?_ ?_
          · unfold gstep modOf; simp only [h1v, hv, hr, h2v, hab2]
          · rw [stepS_specOut]; unfold resistD modOf; simp only [hv, hr, hab2]
        · refine tail _ (l0 ++ [modOf u immune d sp v rr]) h2i (h1l.trans h2l) (h1s.mono h2l) hst2 ?_ ?_
          · unfold gstep modOf; simp only [h1v, hv, hr, h2v, hv2]
          · rw [stepS_specOut]; unfold resistD modOf; simp only [hv, hr, hv2]

theorem valueOfD_calc {rd : Reader} {y : Item} {am : AttrMeta} {ty : ItemType} {b : Rat} {mods : List Calc.Mod}
    (hs : (y.kind == .skill && am.id == 280) = false) (ht : typeOf? u d y = some ty) (hb : baseOf ty am = some b)
    (hg : gatherD u cfg d immune rd y ty am.id = .ok mods) (hrd : ∀ a, rd y a = .absent ∨ ∃ v, rd y a = .ok v) :
    valueOfD u cfg d immune limited pen rd y am =
      match calculate pen am.stackable am.hig b mods
        (match am.maxAttr with | none => none | some mx => match rd y mx with | .ok c => some c | _ => none)
        (limited.contains am.id) with
      | .ok v => .ok v
      | .error _ => .divZero := by
  unfold valueOfD
  simp only [hs, ht, hb, hg, Bool.false_eq_true, if_false]
  cases hmx : am.maxAttr with
  | none => rfl
  | some mx =>
    rcases hrd mx with h | ⟨v, h⟩
    · simp only [h]; rfl
    · simp only [h]; rfl

/-- `calculate` fails exactly when `normAll` does (`readCalc` tests `normAll` before it reads the cap). -/
theorem calculate_of_normAll {st hig : Bool} {b : Rat} {mods : List Calc.Mod} {cap : Option Rat} {lim : Bool} :
    (∀ e, normAll st mods = .error e → calculate pen st hig b mods cap lim = .error e) ∧
    (∀ ns, normAll st mods = .ok ns → ∃ v, calculate pen st hig b mods cap lim = .ok v) := by
  constructor
  · intro e h; unfold calculate; rw [h]; rfl
  · intro ns h; unfold calculate; rw [h]; exact ⟨_, rfl⟩

theorem invR_update {c1 : Cache} {n : Node} {v : Rat} (hi : InvR u cfg d σ c1) (hσ : σ n = some v)
    (hdeps : ResistSrcOK u cfg d σ → ∀ m ∈ deps u cfg d n, Stored u cfg σ c1 m) :
    InvR u cfg d σ (fun k => if k = n then some v else c1 k) ∧ Le c1 (fun k => if k = n then some v else c1 k) := by
  have hle : Le c1 (fun k => if k = n then some v else c1 k) := fun k w hk => by
    show (if k = n then some v else c1 k) = some w
    by_cases hkn : k = n
    · have := hi.1 k w hk
      rw [hkn, hσ] at this
      rw [if_pos hkn]; exact this
    · rw [if_neg hkn]; exact hk
  refine ⟨⟨fun k w hk => ?_, fun hp k hk m hm => ?_⟩, hle⟩
  · have hk' : (if k = n then some v else c1 k) = some w := hk
    by_cases hkn : k = n
    · rw [if_pos hkn] at hk'; rw [hkn, hσ]; exact hk'
    · rw [if_neg hkn] at hk'; exact hi.1 k w hk'
  · have hk' : (if k = n then some v else c1 k) ≠ none := hk
    by_cases hkn : k = n
    · exact (hdeps hp m (hkn ▸ hm)).mono hle
    · rw [if_neg hkn] at hk'; exact (hi.2 hp k hk' m hm).mono hle

theorem goodRead_of_value (C : ReadCtx u immune limited pen cfg d σ) {K : Cache} {y : Item} {a : Int}
    {am : AttrMeta} (hy : y ∈ cfg.items) (hov : ¬ (y.kind == .skill && a == 280) = true)
    (ha : attrMeta? u a = some am) {r : Cache × Val}
    (h2 : r.2 = valueOfD u cfg d immune limited pen (readerOf u σ) y am) (hi : InvR u cfg d σ r.1)
    (hle : Le K r.1) (hst : ∀ v, r.2 = .ok v → r.1 (y.id, a) ≠ none) : GoodRead u cfg d σ K y a r := by
  have hσn := (C.fix _).trans (evalD_node (n := (y.id, a)) (item?_of_mem C.uniq hy) ha σ)
  rcases valueOfD_reader (u := u) (cfg := cfg) (readerOf_ok_or_absent σ) d immune limited pen y am with
    h0 | ⟨⟨v, hv⟩, _⟩ | ⟨hab, _⟩
  · exact absurd h0 (C.ef y hy am (List.mem_of_find?_eq_some ha))
  · rw [hv] at hσn h2
    refine ⟨?_, hi, hle, fun _ _ => hst v h2⟩
    rw [h2, readerOf_node σ hov ha, hσn]; rfl
  · rw [hab] at hσn h2
    refine ⟨?_, hi, hle, fun _ hne => absurd hσn hne⟩
    rw [h2, readerOf_node σ hov ha, hσn]; rfl

theorem readCalc_good (C : ReadCtx u immune limited pen cfg d σ) (rd : Cache → Item → Int → Cache × Val)
    {K : Cache} {y : Item} {a : Int} {am : AttrMeta} {ty : ItemType} {b : Rat} (hy : y ∈ cfg.items)
    (hK : InvR u cfg d σ K) (hov : ¬ (y.kind == .skill && a == 280) = true) (ha : attrMeta? u a = some am)
    (ht : typeOf? u d y = some ty) (hb : baseOf ty am = some b)
    (hrd : GoodOnDeps u cfg d σ rd y a) :
    GoodRead u cfg d σ K y a (readCalc u immune limited pen rd cfg d K y a am ty b) := by
  have hyid : item? cfg (y.id, a).1 = some y := item?_of_mem C.uniq hy
  have hs : (y.kind == .skill && am.id == 280) = false := by rw [attrMeta?_id ha]; exact eq_false_of_ne_true hov
  obtain ⟨Kg, mods, e1, e2, e3, e4, e5⟩ := fold_good C rd hy ha hs ht hrd _ (fun _ h => h) K [] hK
  have hV := valueOfD_calc (limited := limited) (pen := pen) hs ht hb
    ((gatherD_eq_fold d immune (readerOf u σ) y ty am.id).trans e2) (fun a => readerOf_ok_or_absent σ y a)
  unfold readCalc
  rw [e1]; dsimp only
  cases hn : normAll am.stackable mods with
  | error e =>
    rw [(calculate_of_normAll (pen := pen)).1 e hn] at hV
    exact absurd hV (C.ef y hy am (List.mem_of_find?_eq_some ha))
  | ok ns =>
    -- the rest, from the cache `c1` after the cap attribute was read (or not)
    have fin : ∀ (c1 : Cache) (capv : Option Rat), InvR u cfg d σ c1 → Le Kg c1 →
        (∀ mx, am.maxAttr = some mx → Stored u cfg σ c1 (y.id, mx)) →
        capv = (match am.maxAttr with
          | none => none
          | some mx => match readerOf u σ y mx with | .ok c => some c | _ => none) →
        GoodRead u cfg d σ K y a
          (match calculate pen am.stackable am.hig b mods capv (limited.contains am.id) with
            | .ok v => ((fun k => if k = (y.id, a) then some v else c1 k), .ok v)
            | .error _ => (c1, .divZero)) := by
      intro c1 capv hi hle hcapst hcap
      rw [← hcap] at hV
      obtain ⟨v, hcv⟩ := (calculate_of_normAll (pen := pen) (hig := am.hig) (b := b) (cap := capv)
        (lim := limited.contains am.id)).2 ns hn
      rw [hcv] at hV ⊢
      have hσn : σ (y.id, a) = some v := by
        rw [C.fix, evalD_node hyid ha, hV]; rfl
      obtain ⟨hiu, hleu⟩ := invR_update hi hσn (fun hp m hm => by
        rcases (mem_deps_iff hyid ha hs ht).1 hm with ⟨s, hsp, rfl | ⟨c, r, hr, rfl⟩⟩ | hcap
        · exact (e5 s hsp).1.mono hle
        · exact ((e5 s hsp).2 hp c r hr).mono hle
        · obtain ⟨mx, rfl⟩ : ∃ mx, m = (y.id, mx) := ⟨m.2, Prod.ext hcap.2 rfl⟩
          exact hcapst mx hcap.1)
      exact goodRead_of_value C hy hov ha hV.symm hiu ((e4.trans hle).trans hleu)
        fun _ _ => (if_pos rfl).trans_ne (Option.some_ne_none v)
    dsimp only
    cases hmx : am.maxAttr with
    | none =>
      exact fin _ none e3 (Le.refl _) (fun mx h => by rw [hmx] at h; cases h) (by rw [hmx])
    | some mx =>
      obtain ⟨h3v, h3i, h3l, h3s⟩ := hrd _ y mx e3 hy
        ((mem_deps_iff hyid ha hs ht).2 (Or.inr ⟨hmx, rfl⟩))
      have hst : ∀ mx', am.maxAttr = some mx' → Stored u cfg σ (rd Kg y mx).1 (y.id, mx') := by
        intro mx' h; rw [hmx] at h; cases h; exact h3s
      rcases readerOf_ok_or_absent (u := u) σ y mx with hab | ⟨cv, hcv⟩
      · simp only [h3v, hab]
        exact fin _ none h3i h3l hst (by rw [hmx]; simp only [hab])
      · simp only [h3v, hcv]
        exact fin _ (some cv) h3i h3l hst (by rw [hmx]; simp only [hcv])

theorem readBody_good (C : ReadCtx u immune limited pen cfg d σ) (rd : Cache → Item → Int → Cache × Val)
    {K : Cache} {y : Item} {a : Int} (hy : y ∈ cfg.items) (hK : InvR u cfg d σ K)
    (hrd : GoodOnDeps u cfg d σ rd y a) :
    GoodRead u cfg d σ K y a (readBody u immune limited pen rd cfg d K y a) := by
  have hyid : item? cfg y.id = some y := item?_of_mem C.uniq hy
  unfold readBody
  by_cases hov : (y.kind == .skill && a == 280) = true
  · rw [if_pos hov]
    refine ⟨(readerOf_override σ hov).symm, hK, Le.refl K, fun hv => ?_⟩
    simp [valued, hyid, hov] at hv
  rw [if_neg hov]
  cases ha : attrMeta? u a with
  | none =>
    refine ⟨(readerOf_nometa σ hov ha).symm, hK, Le.refl K, fun hv => ?_⟩
    simp [valued, ha] at hv
  | some am =>
    have hs : (y.kind == .skill && am.id == 280) = false := by rw [attrMeta?_id ha]; exact eq_false_of_ne_true hov
    dsimp only
    cases hk : K (y.id, a) with
    | some v =>
      refine ⟨?_, hK, Le.refl K, fun _ _ => by show K (y.id, a) ≠ none; rw [hk]; exact Option.some_ne_none v⟩
      rw [readerOf_node σ hov ha, hK.1 _ v hk]
    | none =>
      dsimp only
      cases ht : typeOf? u d y with
      | none =>
        refine goodRead_of_value C hy hov ha ?_ hK (Le.refl K) (fun v h => by cases h)
        unfold valueOfD; simp only [hs, ht, Bool.false_eq_true, if_false]
      | some ty =>
        dsimp only
        cases hb : baseOf ty am with
        | none =>
          refine goodRead_of_value C hy hov ha ?_ hK (Le.refl K) (fun v h => by cases h)
          unfold valueOfD; simp only [hs, ht, hb, Bool.false_eq_true, if_false]
        | some b => exact readCalc_good C rd hy hK hov ha ht hb hrd

/-- **`readNode` with enough fuel is a good read**, by induction on the fuel: the rank of the attribute
decreases along `deps` (`rankWF`), attributes without metadata are answered without recursion. -/
theorem readNode_good (C : ReadCtx u immune limited pen cfg d σ) : ∀ (f : Nat) (K : Cache) (y : Item) (a : Int),
    y ∈ cfg.items → InvR u cfg d σ K → FuelOK u f a →
    GoodRead u cfg d σ K y a (readNode u immune limited pen f cfg d K y a) := by
  intro f
  induction f with
  | zero => intro K y a _ _ hf; exact absurd hf.1 (Nat.lt_irrefl 0)
  | succ f ih =>
    intro K y a hy hK hf
    rw [readNode_succ]
    refine readBody_good C _ hy hK (fun Kc x b hKc hx hdep => ih Kc x b hx hKc ?_)
    obtain ⟨am, ham, _⟩ := deps_readable hdep
    have h2 := hf.2 (by rw [show attrMeta? u a = some am from ham]; rfl)
    refine ⟨by omega, fun hb => ?_⟩
    have := deps_rank_lt C.wf hdep hb
    unfold rankOf at this
    simp only at this
    omega

theorem resistSrcOK_of_noResist (h : ∀ e ∈ u.effects, e.resistAttr = none) : ResistSrcOK u cfg d σ :=
  fun _ _ _ _ _ s hs c r hr => by
    have := (resistRead_some hr).1
    rw [h _ (running_mem (specsOn_mem hs).2.1).1] at this
    cases this

theorem fuelOK_top (a : Int) : FuelOK u (fuelOf u + 1) a := by
  refine ⟨Nat.succ_pos _, fun _ => ?_⟩
  have := List.idxOf_le_length (a := a) (l := u.attrs.map (·.id))
  rw [List.length_map] at this
  unfold fuelOf; omega

theorem readCtx_world (hwf : rankWF u = true) (hU : UniqueIds cfg)
    (hef : ErrorFree u immune limited pen (worldGraph u immune limited pen hwf) cfg d) :
    ReadCtx u immune limited pen cfg d (spec (worldGraph u immune limited pen hwf (cfg, d))) where
  uniq := hU
  wf := hwf
  fix := (worldGraph_ties hwf).spec_fix
  ef := hef

theorem invR_of_inv (hwf : rankWF u = true) (hU : UniqueIds cfg) {K : Cache}
    (hg : DepCache.Inv (worldGraph u immune limited pen hwf (cfg, d)) K) :
    InvR u cfg d (spec (worldGraph u immune limited pen hwf (cfg, d))) K :=
  ⟨hg.coh, fun _ n hn m hm hv => hg.closed n hn m (by rw [worldGraph_deps hwf hU]; exact mem_depsV.2 ⟨hm, hv⟩)⟩

theorem readNode_world (hwf : rankWF u = true) (hU : UniqueIds cfg)
    (hef : ErrorFree u immune limited pen (worldGraph u immune limited pen hwf) cfg d) {K : Cache}
    (hg : DepCache.Inv (worldGraph u immune limited pen hwf (cfg, d)) K) {y : Item} (hy : y ∈ cfg.items) (a : Int) :
    GoodRead u cfg d (spec (worldGraph u immune limited pen hwf (cfg, d))) K y a
      (readNode u immune limited pen (fuelOf u + 1) cfg d K y a) :=
  readNode_good (readCtx_world hwf hU hef) _ K y a hy (invR_of_inv hwf hU hg) (fuelOK_top a)

/-- **Value of the executable read**: with the model's fuel it returns what the reader of the from-scratch values
answers. -/
theorem readNode_value (hwf : rankWF u = true) (hU : UniqueIds cfg)
    (hef : ErrorFree u immune limited pen (worldGraph u immune limited pen hwf) cfg d) {K : Cache}
    (hg : DepCache.Inv (worldGraph u immune limited pen hwf (cfg, d)) K) {y : Item} (hy : y ∈ cfg.items) (a : Int) :
    (readNode u immune limited pen (fuelOf u + 1) cfg d K y a).2 =
      readerOf u (spec (worldGraph u immune limited pen hwf (cfg, d))) y a :=
  (readNode_world hwf hU hef hg hy a).1

theorem readNode_value_node (hwf : rankWF u = true) (hU : UniqueIds cfg)
    (hef : ErrorFree u immune limited pen (worldGraph u immune limited pen hwf) cfg d) {K : Cache}
    (hg : Inv (worldGraph u immune limited pen hwf (cfg, d)) K) {y : Item} (hy : y ∈ cfg.items) {a : Int}
    (hv : valued u cfg (y.id, a) = true) :
    (readNode u immune limited pen (fuelOf u + 1) cfg d K y a).2 =
      match spec (worldGraph u immune limited pen hwf (cfg, d)) (y.id, a) with
      | some v => .ok v
      | none => .absent := by
  rw [readNode_value hwf hU hef hg hy a]
  simp only [valued, item?_of_mem hU hy, Bool.and_eq_true, Bool.not_eq_true'] at hv
  obtain ⟨am, ham⟩ := Option.isSome_iff_exists.1 hv.1
  rw [readerOf_node _ (by rw [hv.2]; simp) ham]
  rfl

/-- **A cache that extends `K` and is `InvR` is `K` after a legal read event**, that of the nodes it adds.  Under
`ResistSrcOK`, without which `InvR` lacks closedness and a read of the driver is no such event: `gapU` below. -/
theorem legal_read_of_le (hwf : rankWF u = true) (hU : UniqueIds cfg)
    (hrs : ResistSrcOK u cfg d (spec (worldGraph u immune limited pen hwf (cfg, d)))) {K K' : Cache}
    (hi : InvR u cfg d (spec (worldGraph u immune limited pen hwf (cfg, d))) K') (hle : Le K K') :
    ∃ S : Node → Bool,
      Legal (worldGraph u immune limited pen hwf) ⟨(cfg, d), K⟩ (.read S) ∧
      K' = fun n => if S n then spec (worldGraph u immune limited pen hwf (cfg, d)) n else K n := by
  obtain ⟨hcoh, hcl⟩ := hi
  refine ⟨fun n => (K' n).isSome && (K n).isNone, fun n hn m hm hs => ?_, funext fun n => ?_⟩
  · simp only [Bool.and_eq_true, Option.isSome_iff_ne_none, Option.isNone_iff_eq_none] at hn ⊢
    rw [worldGraph_deps hwf hU, mem_depsV] at hm
    have := hcl hrs n hn.1 m hm.1 hm.2 hs
    by_cases hk : K m = none
    · exact Or.inl ⟨this, hk⟩
    · exact Or.inr hk
  · show K' n = if ((K' n).isSome && (K n).isNone) = true then _ else K n
    cases hk' : K' n with
    | none =>
      cases hk : K n with
      | none => simp
      | some v => rw [hle n v hk] at hk'; cases hk'
    | some v =>
      cases hk : K n with
      | none => simp [hcoh n v hk']
      | some w => rw [hle n w hk] at hk'; simp [hk']

theorem mem_tblOf {K : Cache} {p : Node × Rat} :
    p ∈ tblOf u cfg K ↔ (∃ x ∈ cfg.items, ∃ am ∈ u.attrs, p.1 = (x.id, am.id)) ∧ K p.1 = some p.2 := by
  simp only [tblOf, List.mem_flatMap, List.mem_filterMap, Option.map_eq_some_iff]
  constructor
  · rintro ⟨x, hx, am, ham, v, hv, rfl⟩; exact ⟨⟨x, hx, am, ham, rfl⟩, hv⟩
  · rintro ⟨⟨x, hx, am, ham, h1⟩, h2⟩
    exact ⟨x, hx, am, ham, p.2, by rw [← h1]; exact h2, by rw [← h1]⟩

theorem tblFun_tblOf {K : Cache}
    (hsupp : ∀ n, K n ≠ none → ∃ x am, item? cfg n.1 = some x ∧ attrMeta? u n.2 = some am) :
    tblFun (tblOf u cfg K) = K := by
  funext n
  unfold tblFun
  cases hf : (tblOf u cfg K).find? (·.1 == n) with
  | none =>
    cases hk : K n with
    | none => rfl
    | some v =>
      obtain ⟨x, am, hx, ha⟩ := hsupp n (by rw [hk]; exact Option.some_ne_none v)
      have := List.find?_eq_none.1 hf (n, v)
        (mem_tblOf.2 ⟨⟨x, item?_mem hx, am, attrMeta?_mem ha, node_eq hx ha⟩, hk⟩)
      simp at this
  | some p =>
    have hp := (mem_tblOf.1 (List.mem_of_find?_eq_some hf)).2
    have hk : p.1 = n := by simpa using List.find?_some hf
    rw [hk] at hp
    exact hp.symm

theorem readStepT_cfg_dyn (s : TState) (i : Nat) (a : Int) :
    (readStepT u immune limited pen s i a).1.cfg = s.cfg ∧ (readStepT u immune limited pen s i a).1.dyn = s.dyn := by
  unfold readStepT
  cases item? s.cfg i <;> exact ⟨rfl, rfl⟩

/-- The public read on the table twin, in a coherent state without division by zero: the table it leaves (re-packed
by `tblOf`, which loses nothing of a coherent cache) extends the old one as `readNode` does, and the value is the
reader's.  Nothing happens for an item that is not configured. -/
theorem readStepT_world (hwf : rankWF u = true) {s : TState} (hU : UniqueIds s.cfg)
    (hef : ErrorFree u immune limited pen (worldGraph u immune limited pen hwf) s.cfg s.dyn)
    (hg : DepCache.Inv (worldGraph u immune limited pen hwf (s.cfg, s.dyn)) (tblFun s.tbl)) (i : Nat) (a : Int) :
    InvR u s.cfg s.dyn (spec (worldGraph u immune limited pen hwf (s.cfg, s.dyn)))
      (tblFun (readStepT u immune limited pen s i a).1.tbl) ∧
    Le (tblFun s.tbl) (tblFun (readStepT u immune limited pen s i a).1.tbl) ∧
    ∀ y, item? s.cfg i = some y → (readStepT u immune limited pen s i a).2 =
      readerOf u (spec (worldGraph u immune limited pen hwf (s.cfg, s.dyn))) y a := by
  unfold readStepT
  cases hi : item? s.cfg i with
  | none => exact ⟨invR_of_inv hwf hU hg, Le.refl _, fun _ h => nomatch h⟩
  | some y =>
    obtain ⟨hv, hinv, hle, _⟩ := readNode_world hwf hU hef hg (item?_mem hi) a
    show InvR _ _ _ _ (tblFun (tblOf u s.cfg _)) ∧ Le _ (tblFun (tblOf u s.cfg _)) ∧ _
    rw [tblFun_tblOf fun _ => (worldGraph_ties hwf).node_of_cached hinv.1]
    exact ⟨hinv, hle, fun _ h => Option.some.inj h ▸ hv⟩

/-- The driver's read is the model's read: `readStepT` (table in, table out) and `readStep` return the same value
and the same state. -/
theorem readStepT_toM (hwf : rankWF u = true) {s : TState} (hU : UniqueIds s.cfg)
    (hef : ErrorFree u immune limited pen (worldGraph u immune limited pen hwf) s.cfg s.dyn)
    (hg : Good (worldGraph u immune limited pen hwf) (toState s.toM)) (i : Nat) (a : Int) :
    (readStepT u immune limited pen s i a).1.toM = (readStep u immune limited pen s.toM i a).1 ∧
    (readStepT u immune limited pen s i a).2 = (readStep u immune limited pen s.toM i a).2 := by
  unfold readStepT readStep
  simp only [TState.toM]
  cases hi : item? s.cfg i with
  | none => exact ⟨rfl, rfl⟩
  | some y =>
    refine ⟨?_, rfl⟩
    show MState.mk _ _ _ = MState.mk _ _ _
    congr 1
    exact tblFun_tblOf fun _ =>
      (worldGraph_ties hwf).node_of_cached (readNode_world hwf hU hef hg (item?_mem hi) a).2.1.1

/-! ### Why `ResistSrcOK` is needed

A module (item 2) projects effect 1000 — resisted by attribute 9, one modifier `37 ← 20` — onto a ship
(item 1); the module's type has no attribute 20, the ship's type has attribute 9.  Reading `(1, 37)` skips the
modifier (source absent) without reading the resistance attribute: `(1, 37)` is cached, its dependency `(1, 9)`
has a from-scratch value and stays uncached. -/

def gapU : Universe :=
  { attrs := [⟨9, none, none, true, true⟩, ⟨20, none, none, true, true⟩, ⟨37, none, none, true, true⟩],
    effects := [⟨1000, 2, none, some 9, false, [⟨1, 4, none, 37, 6, 1, none, 20⟩]⟩],
    types := [⟨1, none, some 6, none, [(37, 100), (9, 1/2)], [], []⟩, ⟨2, none, some 7, none, [], [1000], []⟩] }
def gapShip : Item := ⟨1, .ship, 1, 0, 1, none, none, none, []⟩
def gapCfg : Config :=
  { hasSource := true, fits := [⟨0, some 1, none, none⟩],
    items := [gapShip, ⟨2, .moduleMid, 2, 0, 3, none, some 1, none, []⟩] }
def gapD : Dyn :=
  { loaded := fun i => i == 1 || i == 2, on := fun i e => i == 2 && e == 1000,
    tgts := fun i e => if i == 2 && e == 1000 then [1] else [] }

example : (readNode gapU specImmune specLimited (fun _ => 1) (fuelOf gapU + 1) gapCfg gapD (fun _ => none) gapShip 37).2
      = .ok 100 ∧
    (readNode gapU specImmune specLimited (fun _ => 1) (fuelOf gapU + 1) gapCfg gapD (fun _ => none) gapShip 37).1 (1, 37)
      = some 100 ∧
    (readNode gapU specImmune specLimited (fun _ => 1) (fuelOf gapU + 1) gapCfg gapD (fun _ => none) gapShip 37).1 (1, 9)
      = none ∧
    (1, 9) ∈ depsV gapU gapCfg gapD (1, 37) ∧
    spec (worldGraph gapU specImmune specLimited (fun _ => 1) (by decide) (gapCfg, gapD)) (1, 9) = some (1/2) := by
  decide +kernel

/-! ### Non-vacuity: the settled two-item world of `Lemmas/MicroSettle.lean`, read through the table twin -/

example : (readStepT settleU specImmune specLimited (fun _ => 1)
      ⟨settleCfg, derivedDyn settleU settleCfg, []⟩ 1 37).2 = .ok 225 ∧
    (readStepT settleU specImmune specLimited (fun _ => 1)
      ⟨settleCfg, derivedDyn settleU settleCfg, []⟩ 1 37).1.tbl = [((1, 37), 225), ((2, 20), 3/2)] := by
  decide +kernel

end Eos.Micro
