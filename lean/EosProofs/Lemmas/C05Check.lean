import EosProofs.Lemmas.C05Keys
/-! C05: a checker for the regenerated decision table that the kernel evaluates cheaply, and the proof that what
it accepts, `partsOk` accepts. -/
namespace Eos.C05
open Eos.EffectStatus

/-- What a key holds besides item state, run mode and override. The override is the innermost coordinate of
    `keysFor`, so a part is made of runs of five keys with one stem. -/
structure Stem where
  cat : Cat
  isDefault : Bool
  online : Online
  hasChance : Bool

namespace Stem

def key (t : Stem) (s : State) (m : Nat) (v : Option State) : Key := ⟨s, m, t.cat, t.isDefault, t.online, t.hasChance, v⟩

/-- The stem's four digits of `Key.pack`. -/
def low (t : Stem) : Nat := ((t.cat.toNat * 10 + b2n t.isDefault) * 10 + t.online.toNat) * 10 + b2n t.hasChance

/-- `Key.spec` of a key with this stem, from the state `e` the decision is taken for and the run mode. -/
def spec (t : Stem) (e : State) (mode : ModeK) : Option Bool :=
  t.cat.state?.map fun es => decideStatus e mode es ⟨t.isDefault, t.hasChance, t.online == .self⟩
    (match t.online with
     | .present m => decideStatus e (ModeK.ofId m) .online ⟨false, false, true⟩ false
     | _ => false)

theorem pack_key (t : Stem) (s : State) (m : Nat) (v : Option State) :
    (t.key s m v).pack = ((s.toNat * 10 + m) * 10000 + t.low) * 10 + ovDigit v := by
  show _ + ovDigit v = _; dsimp only [key, low]; omega

/-- The decision looks at item state and override only through `Key.effState`. -/
theorem spec_key (t : Stem) (s : State) (m : Nat) (v : Option State) :
    (t.key s m v).spec = t.spec (v.getD s) (ModeK.ofId m) := by cases v <;> rfl

end Stem

/-- `keysFor` without item state, run mode and override. -/
def stems : List Stem :=
  Cat.all.flatMap fun c => [false, true].flatMap fun d => onlineValues.flatMap fun o =>
  [false, true].filterMap fun h => if o = .self ∧ c ≠ .online then none else some ⟨c, d, o, h⟩

theorem keysFor_eq_stems (s : State) (m : Nat) :
    keysFor s m = stems.flatMap fun t => overrideValues.map (t.key s m) := by
  simp only [keysFor, stems, List.flatMap_assoc]
  refine congrArg (List.flatMap · _) (funext fun c => congrArg (List.flatMap · _) (funext fun d =>
    congrArg (List.flatMap · _) (funext fun o => ?_)))
  -- for given `c d o`, either side is the empty list or the same ten keys written out
  split <;> rfl

/-- `rowOk` against the packing and the specified outcome. The comparison is `Nat.beq`, one step for the kernel
    on literals; `==` goes through `Nat.decEq` and the proofs it carries. -/
def rowOkAt (row pack : Nat) (spec : Option Bool) : Bool :=
  match spec with
  | some b => row.beq (pack * 10 + b2n b)
  | none => (row / 10).beq pack

theorem rowOkAt_sound {row pack : Nat} {spec : Option Bool} (h : rowOkAt row pack spec = true) :
    (row / 10 == pack && (match (generalizing := false) spec with | some b => row % 10 == b2n b | none => true)) = true := by
  rcases spec with _ | b <;> simp only [Bool.and_eq_true, Bool.and_true, beq_iff_eq]
  · exact Nat.eq_of_beq_eq_true h
  · obtain rfl := Nat.eq_of_beq_eq_true h
    exact digit_inj (Nat.mod_lt _ (by decide)) (by cases b <;> decide) (Nat.div_add_mod' ..)

theorem rowOk_key {row : Nat} {t : Stem} {s : State} {m : Nat} (v : Option State)
    (h : rowOkAt row (((s.toNat * 10 + m) * 10000 + t.low) * 10 + ovDigit v) (t.spec (v.getD s) (ModeK.ofId m)) = true) :
    rowOk row (t.key s m v) = true := by
  rw [rowOk, t.pack_key, t.spec_key]; exact rowOkAt_sound h

/-- `rowsOk` against the keys of the stems `ts`, run of five rows by run of five; `more` goes on with what is
    left when the rows run out (the parts come in chunks). `hi` is `(s.toNat * 10 + m) * 10000`, the two
    leading digits, `mode` is `ModeK.ofId m`.

    The shape is chosen for the kernel, which evaluates by substitution and remembers the value of every closed
    term it has met within one declaration. `stems` is closed, so it is generated once and walked by all parts
    checked in that declaration, whereas `keysFor s m` is generated anew for every `s` and `m`. The packing is
    `hi` plus `t.low` (closed: once per stem) plus the override digit. With an override the specified outcome
    does not mention `s` (`Stem.spec_key`), so `t.spec e mode` is evaluated once for each `e` and serves all
    item states of a run mode: the whole table is therefore checked in one declaration (`tableOk`). -/
def stemsOk (s : State) (mode : ModeK) (hi : Nat) (more : List Nat → List Stem → Bool) :
    List Nat → List Stem → Bool
  | r0 :: r1 :: r2 :: r3 :: r4 :: rows, t :: ts =>
    rowOkAt r0 ((hi + t.low) * 10 + 0) (t.spec s mode) &&
    rowOkAt r1 ((hi + t.low) * 10 + 1) (t.spec .offline mode) &&
    rowOkAt r2 ((hi + t.low) * 10 + 2) (t.spec .online mode) &&
    rowOkAt r3 ((hi + t.low) * 10 + 3) (t.spec .active mode) &&
    rowOkAt r4 ((hi + t.low) * 10 + 4) (t.spec .overload mode) && stemsOk s mode hi more rows ts
  | rows, ts => more rows ts
termination_by structural _ ts => ts

theorem stemsOk_sound (s : State) (m : Nat) (more : List Nat → List Stem → Bool) (tail : List Nat)
    (hm : ∀ rows ts, more rows ts = true →
      rowsOk (rows ++ tail) (ts.flatMap fun t => overrideValues.map (t.key s m)) = true)
    (rows : List Nat) (ts : List Stem)
    (h : stemsOk s (ModeK.ofId m) ((s.toNat * 10 + m) * 10000) more rows ts = true) :
    rowsOk (rows ++ tail) (ts.flatMap fun t => overrideValues.map (t.key s m)) = true := by
  fun_induction stemsOk s (ModeK.ofId m) ((s.toNat * 10 + m) * 10000) more rows ts with
  | case1 r0 r1 r2 r3 r4 rows t ts ih =>
    simp only [Bool.and_eq_true, and_assoc] at h
    obtain ⟨h0, h1, h2, h3, h4, h⟩ := h
    simp only [List.flatMap_cons, overrideValues, State.all, List.map, List.cons_append, List.nil_append, rowsOk,
      Bool.and_eq_true]
    exact ⟨rowOk_key none h0, rowOk_key (some .offline) h1, rowOk_key (some .online) h2,
      rowOk_key (some .active) h3, rowOk_key (some .overload) h4, ih h⟩
  | case2 rows ts _ => exact hm rows ts h

/-- `stemsOk` for a part given as the chunks it is appended from, `rest` being what the chunks before have
    left. The kernel carries every element of an appended list through each `++` before it can look at it:
    walking `c0 ++ c1 ++ c2 ++ c3 ++ c4` costs it more than twice what walking the five literals costs. -/
def chunksOk (s : State) (mode : ModeK) (hi : Nat) : List (List Nat) → List Nat → List Stem → Bool
  | [], rest, ts => rest.isEmpty && ts.isEmpty
  | c :: cs, rest, ts => stemsOk s mode hi (chunksOk s mode hi cs) (rest ++ c) ts

theorem chunksOk_sound (s : State) (m : Nat) (cs : List (List Nat)) (rest : List Nat) (ts : List Stem)
    (h : chunksOk s (ModeK.ofId m) ((s.toNat * 10 + m) * 10000) cs rest ts = true) :
    rowsOk (rest ++ cs.flatten) (ts.flatMap fun t => overrideValues.map (t.key s m)) = true := by
  induction cs generalizing rest ts with
  | nil =>
    simp only [chunksOk, Bool.and_eq_true, List.isEmpty_iff] at h
    obtain ⟨rfl, rfl⟩ := h; rfl
  | cons c cs ih =>
    rw [List.flatten_cons, ← List.append_assoc]
    exact stemsOk_sound s m _ _ ih _ _ h

def partOk (s : State) (m : Nat) (cs : List (List Nat)) : Bool :=
  chunksOk s (ModeK.ofId m) ((s.toNat * 10 + m) * 10000) cs [] stems

/-- The rows in the form of the generated `part11 = part11c0 ++ part11c1 ++ …`. -/
theorem partOk_sound {s : State} {m : Nat} {cs : List (List Nat)} (h : partOk s m cs = true) :
    rowsOk (cs.foldl (· ++ ·) []) (keysFor s m) = true := by
  have hf : cs.foldl (· ++ ·) [] = [] ++ cs.flatten := by
    simpa using List.foldl_append_eq_append (f := id) (l := cs) (l' := [])
  rw [hf, keysFor_eq_stems]; exact chunksOk_sound s m cs [] stems h

/-- `partsOk`, each part given by its item state, its run mode and its chunks. The triple is taken apart by the
    pattern and not by projections, which the kernel would substitute as they stand: `s` and `m` must be the same
    terms in every part for the sharing described at `stemsOk`. -/
def tableOk : List (State × Nat × List (List Nat)) → Bool
  | [] => true
  | (s, m, cs) :: l => partOk s m cs && tableOk l

theorem tableOk_sound {l : List (State × Nat × List (List Nat))} (h : tableOk l = true) :
    partsOk (l.map fun p => p.2.2.foldl (· ++ ·) []) (l.map fun p => keysFor p.1 p.2.1) = true := by
  induction l with
  | nil => rfl
  | cons p l ih =>
    simp only [tableOk, Bool.and_eq_true] at h
    simp only [List.map_cons, partsOk, Bool.and_eq_true]
    exact ⟨partOk_sound h.1, ih h.2⟩

end Eos.C05
