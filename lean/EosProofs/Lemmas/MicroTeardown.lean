import EosProofs.Lemmas.MicroRuns
import EosProofs.Lemmas.MicroExecStep
/-! Tear-down at message level.  What a message does to the registers depends on the registers only (`dynStep`), so a
message list acts on them as a fold, and for the tear-down — a message list computed from the registers it is to empty
— the fold has a closed form that holds in any state: the item is wiped, nothing else changes.  Only the side
conditions of the messages need an order: projectors before their targets (`K1Order`). -/
namespace Eos.Micro.L
open Eos.World Eos.DepCache

variable {u : Universe}

/-- What reaches the calculation service when item `i` is removed, as one list read off the registers of `s`.  A
linearisation: `BaseItemMixin._unload` (`MsgHelper.get_item_unloaded_msgs`) publishes `EffectUnapplied` for the targeted
effects of a targetable item, `EffectsStopped`, `ItemUnloaded`; for a fleet boost the service itself publishes the
`EffectUnapplied` and drops the registered modifiers (`buffset … []`) inside its `EffectsStopped` handler.
`StatesDeactivatedLoaded` is not modelled.  `es` lists the effect ids that may be running or applied. -/
def teardown (i : Nat) (es : List Int) (s : MState) : List MStep :=
  ((es.filter fun e => !(s.dyn.tgts i e).isEmpty).map fun e => .unapply i e (s.dyn.tgts i e)) ++
    (((es.filter fun e => !(s.dyn.bspecs i e).isEmpty).map fun e => .buffset i e []) ++
      [.stop i (es.filter fun e => s.dyn.on i e), .unload i])

def Covers (d : Dyn) (i : Nat) (es : List Int) : Prop :=
  ∀ e, d.on i e = true ∨ d.tgts i e ≠ [] ∨ d.bspecs i e ≠ [] → e ∈ es

/-- No theorem concludes this structure: `C11World.teardown_item` states the eight clauses as one conjunction. -/
structure TornDown (i : Nat) (s s' : MState) : Prop where
  cfg : s'.cfg = s.cfg
  loaded : s'.dyn.loaded i = false
  on : ∀ e, s'.dyn.on i e = false
  tgts : ∀ e, s'.dyn.tgts i e = []
  bspecs : ∀ e, s'.dyn.bspecs i e = []
  cache : ∀ n, n.1 = i → s'.cache n = none
  other : ∀ j, j ≠ i → s'.dyn.loaded j = s.dyn.loaded j ∧
    ∀ e, s'.dyn.on j e = s.dyn.on j e ∧ s'.dyn.tgts j e = s.dyn.tgts j e ∧ s'.dyn.bspecs j e = s.dyn.bspecs j e
  sub : Cascade.Sub s.cache s'.cache

theorem ite_or_ite {α : Type} {p q : Prop} [Decidable p] [Decidable q] (a b : α) :
    (if q then a else if p then a else b) = if p ∨ q then a else b :=
  (ite_or q p a b).symm.trans (if_congr or_comm rfl rfl)

theorem clear_cells {β : Type} {z : β} {g : Nat → Int → β} {i : Nat} {L : List Int} (h : ∀ f, g i f ≠ z → f ∈ L) :
    (fun j f => if j = i ∧ f ∈ L then z else g j f) = fun j f => if j = i then z else g j f := by
  funext j f
  by_cases hj : j = i
  · subst hj
    by_cases hf : f ∈ L
    · rw [if_pos ⟨rfl, hf⟩, if_pos rfl]
    · rw [if_neg fun h => hf h.2, if_pos rfl]
      exact Classical.not_not.1 fun hne => hf (h f hne)
  · rw [if_neg fun h => hj h.1, if_neg hj]

def clearItems (d : Dyn) (I : List Nat) : Dyn where
  loaded j := if j ∈ I then false else d.loaded j
  on j e := if j ∈ I then false else d.on j e
  tgts j e := if j ∈ I then [] else d.tgts j e
  bspecs j e := if j ∈ I then [] else d.bspecs j e

theorem clearItems_of_mem {d : Dyn} {I : List Nat} {j : Nat} (h : j ∈ I) :
    (clearItems d I).loaded j = false ∧
      ∀ e, (clearItems d I).on j e = false ∧ (clearItems d I).tgts j e = [] ∧ (clearItems d I).bspecs j e = [] :=
  ⟨if_pos h, fun _ => ⟨if_pos h, if_pos h, if_pos h⟩⟩

theorem clearItems_of_not_mem {d : Dyn} {I : List Nat} {j : Nat} (h : j ∉ I) :
    (clearItems d I).loaded j = d.loaded j ∧
      ∀ e, (clearItems d I).on j e = d.on j e ∧ (clearItems d I).tgts j e = d.tgts j e ∧
        (clearItems d I).bspecs j e = d.bspecs j e :=
  ⟨if_neg h, fun _ => ⟨if_neg h, if_neg h, if_neg h⟩⟩

theorem clearItems_append (d : Dyn) (I J : List Nat) : clearItems (clearItems d I) J = clearItems d (I ++ J) := by
  unfold clearItems
  simp only [ite_or_ite, List.mem_append]

/-- A fold of updates of the cells `(i, e)`, `e ∈ l`, by an idempotent `φ e` is the update of the listed cells: a cell
listed twice is not changed the second time. -/
theorem foldl_cells {β : Type} (i : Nat) (φ : Int → β → β) (hφ : ∀ e b, φ e (φ e b) = φ e b) (l : List Int)
    (g : Nat → Int → β) :
    l.foldl (fun g e j f => if j = i ∧ f = e then φ e (g i e) else g j f) g =
      fun j f => if j = i ∧ f ∈ l then φ f (g i f) else g j f := by
  induction l generalizing g with
  | nil => simp
  | cons e0 l ih =>
    rw [List.foldl_cons, ih]
    funext j f
    by_cases hj : j = i
    · by_cases hf : f = e0
      · simp [hj, hf, hφ]
      · simp [hj, hf]
    · simp [hj]

theorem unapply_phase (i : Nat) (l : List Int) (d : Dyn) :
    (l.map fun e => MStep.unapply i e (d.tgts i e)).foldl dynStep d =
      { d with tgts := fun j f => if j = i ∧ f ∈ l then [] else d.tgts j f } := by
  have h := foldl_cells i (fun e b => b.filter fun t => !(d.tgts i e).contains t) (by simp) l d.tgts
  simp only [filter_not_contains_self] at h
  rw [List.foldl_map, ← h]
  exact List.foldl_hom (fun g => { d with tgts := g }) (g₂ := fun d' e => dynStep d' (.unapply i e (d.tgts i e)))
    fun _ _ => rfl

theorem buffclear_phase (i : Nat) (l : List Int) (d : Dyn) :
    (l.map fun e => MStep.buffset i e []).foldl dynStep d =
      { d with bspecs := fun j f => if j = i ∧ f ∈ l then [] else d.bspecs j f } := by
  rw [List.foldl_map, ← foldl_cells i (fun _ _ => []) (fun _ _ => rfl) l d.bspecs]
  exact List.foldl_hom (fun g => { d with bspecs := g }) (g₂ := fun d' e => dynStep d' (.buffset i e []))
    fun _ _ => rfl

theorem mem_filter_nonempty {α : Type} {es : List Int} {g : Int → List α} {f : Int} (hf : f ∈ es) (hne : g f ≠ []) :
    f ∈ es.filter fun e => !(g e).isEmpty :=
  List.mem_filter.2 ⟨hf, by cases h : g f with
    | nil => exact absurd h hne
    | cons _ _ => rfl⟩

theorem teardown_pre (i : Nat) (es : List Int) (s : MState) (hcov : Covers s.dyn i es) :
    (mrun u s ((es.filter fun e => !(s.dyn.tgts i e).isEmpty).map fun e => .unapply i e (s.dyn.tgts i e))).dyn =
      { s.dyn with tgts := fun j f => if j = i then [] else s.dyn.tgts j f } ∧
    (mrun u (mrun u s ((es.filter fun e => !(s.dyn.tgts i e).isEmpty).map fun e => .unapply i e (s.dyn.tgts i e)))
        ((es.filter fun e => !(s.dyn.bspecs i e).isEmpty).map fun e => .buffset i e [])).dyn =
      { s.dyn with tgts := fun j f => if j = i then [] else s.dyn.tgts j f,
                   bspecs := fun j f => if j = i then [] else s.dyn.bspecs j f } := by
  have c1 := clear_cells fun f hf => mem_filter_nonempty (hcov f (Or.inr (Or.inl hf))) hf
  have c2 := clear_cells fun f hf => mem_filter_nonempty (hcov f (Or.inr (Or.inr hf))) hf
  exact ⟨by rw [mrun_dyn, unapply_phase, c1], by rw [mrun_dyn, mrun_dyn, unapply_phase, c1, buffclear_phase, c2]⟩

theorem teardown_dyn (i : Nat) (es : List Int) (s : MState) (hcov : Covers s.dyn i es) :
    (mrun u s (teardown i es s)).dyn = clearItems s.dyn [i] := by
  rw [teardown, mrun_append, mrun_append, mrun_dyn, (teardown_pre i es s hcov).2]
  simp only [List.foldl_cons, List.foldl_nil, dynStep, setOn, setLoaded, clearItems, List.mem_singleton]
  rw [clear_cells fun e he => ?_]
  have ho : s.dyn.on i e = true := eq_true_of_ne_false he
  exact List.mem_filter.2 ⟨hcov e (Or.inl ho), ho⟩

theorem teardown_no_reconfig {i : Nat} {es : List Int} {s : MState} : ∀ st ∈ teardown i es s, ∀ c, st ≠ .reconfig c := by
  intro st hst c hc
  subst hc
  simp only [teardown, List.mem_append, List.mem_map, List.mem_cons, List.not_mem_nil, reduceCtorEq, and_false,
    exists_false, or_self] at hst

/-- The last message is `ItemUnloaded`, followed by `attrs._clear()`: nothing of `i` stays cached. -/
theorem teardown_cache (i : Nat) (es : List Int) (s : MState) {n : Node} (hn : n.1 = i) :
    (mrun u s (teardown i es s)).cache n = none := by
  rw [teardown, mrun_append, mrun_append]
  exact if_pos hn

theorem teardown_stepOK (W : Config × Dyn → Graph Node Rat) (i : Nat) (es : List Int) (s : MState)
    (hcov : Covers s.dyn i es) (hK1 : ∀ a, a ≠ i → ∀ e, i ∉ s.dyn.tgts a e) :
    MRunOK u (StepOK W) s (teardown i es s) := by
  -- `EffectUnapplied` needs nothing; the `buffset`s and `EffectsStopped` need "nothing recorded for `i` any more"
  -- (`h1`, `h2`: the registers after the first and after the first two groups); `ItemUnloaded` needs all effects of
  -- `i` off and `i` in nobody's recorded targets (K1)
  obtain ⟨h1, h2⟩ := teardown_pre (u := u) i es s hcov
  rw [teardown, mrunOK_append, mrunOK_append]
  refine ⟨mrunOK_of_inv (fun _ => True) _ _ trivial fun _ _ st hst => ?_,
    mrunOK_of_inv (fun s' => ∀ e, s'.dyn.tgts i e = []) _ _ (fun e => ?_) fun s' hs' st hst => ?_,
    fun e _ => ?_, ⟨fun e => ?_, fun a e => ?_⟩, trivial⟩
  · obtain ⟨e, _, rfl⟩ := List.mem_map.1 hst; exact ⟨trivial, trivial⟩
  · -- the `buffset`s: invariant "nothing recorded for `i`", at the start and kept
    rw [h1]; exact if_pos rfl
  · obtain ⟨e, _, rfl⟩ := List.mem_map.1 hst; exact ⟨hs' e, hs'⟩
  · rw [h2]; exact if_pos rfl
  · -- `ItemUnloaded`: the `EffectsStopped` named every effect that was running
    rw [mstep_dyn, h2]
    show (if i = i ∧ e ∈ es.filter (fun e => s.dyn.on i e) then false else s.dyn.on i e) = false
    cases ho : s.dyn.on i e with
    | false => exact ite_self _
    | true => exact if_pos ⟨rfl, List.mem_filter.2 ⟨hcov e (Or.inl ho), ho⟩⟩
  · -- `ItemUnloaded`: K1
    rw [mstep_dyn, h2]
    show i ∉ if a = i then [] else s.dyn.tgts a e
    by_cases ha : a = i
    · rw [if_pos ha]; exact List.not_mem_nil
    · rw [if_neg ha]; exact hK1 a ha e

/-- What holds of every recorded target at the configured items and the effects of their types holds of every
recorded target. -/
theorem _root_.Eos.Micro.DynFin.forall_mem_tgts {cfg : Config} {d : Dyn} (h : DynFin u cfg d) {P : Nat → Int → Nat → Prop}
    (hn : ∀ x ∈ cfg.items, ∀ e ∈ effsOf u x, ∀ t ∈ d.tgts x.id e, P x.id e t) (i : Nat) (e : Int) (t : Nat)
    (ht : t ∈ d.tgts i e) : P i e t := by
  obtain ⟨x, hx, rfl, he⟩ := h.tgts i e (List.ne_nil_of_mem ht)
  exact hn x hx e he t ht

theorem covers_of_dynFin {cfg : Config} {d : Dyn} {es : List Int} (h : DynFin u cfg d)
    (hes : ∀ x ∈ cfg.items, ∀ e ∈ effsOf u x, e ∈ es) (j : Nat) : Covers d j es := by
  intro e he
  obtain ⟨x, hx, _, hxe⟩ : Named u cfg j e := by
    rcases he with ho | ht | hb
    exacts [h.on j e ho, h.tgts j e ht, h.bspecs j e hb]
  exact hes x hx e hxe

def teardownAll (u : Universe) (es : List Int) : List Nat → MState → List MStep
  | [], _ => []
  | i :: rest, s => teardown i es s ++ teardownAll u es rest (mrun u s (teardown i es s))

def DynEmptyOn (cfg : Config) (d : Dyn) : Prop :=
  ∀ x ∈ cfg.items, d.loaded x.id = false ∧ ∀ e, d.on x.id e = false ∧ d.tgts x.id e = [] ∧ d.bspecs x.id e = []

/-- `done`: the items already torn down (start with `[]`). -/
def K1Order (d : Dyn) : List Nat → List Nat → Prop
  | _, [] => True
  | done, i :: rest => (∀ a e, i ∈ d.tgts a e → a = i ∨ a ∈ done) ∧ K1Order d (i :: done) rest

theorem covers_clearItems {d : Dyn} {es : List Int} (hc : ∀ j, Covers d j es) (I : List Nat) :
    ∀ j, Covers (clearItems d I) j es := by
  intro j e he
  by_cases hj : j ∈ I
  · obtain ⟨h1, h2, h3⟩ := (clearItems_of_mem (d := d) hj).2 e
    rw [h1, h2, h3] at he
    exact absurd he (by simp)
  · obtain ⟨h1, h2, h3⟩ := (clearItems_of_not_mem (d := d) hj).2 e
    rw [h1, h2, h3] at he
    exact hc j e he

theorem teardownAll_spec (es : List Int) (order : List Nat) : ∀ s : MState, (∀ j, Covers s.dyn j es) →
    (mrun u s (teardownAll u es order s)).cfg = s.cfg ∧
    (mrun u s (teardownAll u es order s)).dyn = clearItems s.dyn order ∧
    Cascade.Sub s.cache (mrun u s (teardownAll u es order s)).cache ∧
    ∀ n, n.1 ∈ order → (mrun u s (teardownAll u es order s)).cache n = none := by
  induction order with
  | nil => exact fun s _ => ⟨rfl, rfl, Cascade.Sub.refl _, fun _ h => by cases h⟩
  | cons i rest ih =>
    intro s hc
    have hd := teardown_dyn (u := u) i es s (hc i)
    obtain ⟨c, d, sb, ca⟩ := ih (mrun u s (teardown i es s)) (hd ▸ covers_clearItems hc [i])
    rw [teardownAll, mrun_append]
    refine ⟨c.trans (mrun_cfg _ _ teardown_no_reconfig), ?_, (mrun_sub _ _).trans sb, fun n hn => ?_⟩
    · rw [d, hd]; exact clearItems_append _ _ _
    · rcases List.mem_cons.1 hn with h | h
      · exact Cascade.mono_none sb.mono (teardown_cache i es s h)
      · exact ca n h

theorem teardownAll_stepOK (W : Config × Dyn → Graph Node Rat) (es : List Int) (order : List Nat) (s : MState)
    (hc : ∀ j, Covers s.dyn j es) (hk : K1Order s.dyn [] order) :
    MRunOK u (StepOK W) s (teardownAll u es order s) := by
  -- for the induction: `s'` is the state after the items `done` were torn down (`done'` is `done` in the order of
  -- wiping); `K1Order` stays a statement about the registers at the start
  have step : ∀ (order done done' : List Nat) (s' : MState), (∀ a, a ∈ done' ↔ a ∈ done) →
      s'.dyn = clearItems s.dyn done' → K1Order s.dyn done order →
      MRunOK u (StepOK W) s' (teardownAll u es order s') := by
    intro order
    induction order with
    | nil => exact fun _ _ _ _ _ _ => trivial
    | cons i rest ih =>
      intro done done' s' hm hs hk
      have hcs : ∀ j, Covers s'.dyn j es := hs ▸ covers_clearItems hc done'
      rw [teardownAll, mrunOK_append]
      refine ⟨teardown_stepOK W i es s' (hcs i) fun a ha e hi => ?_,
        ih (i :: done) (done' ++ [i]) _ (fun a => ?_) ?_ hk.2⟩
      · -- a projector still holding `i` has been torn down already
        rw [hs] at hi
        change i ∈ (if a ∈ done' then [] else s.dyn.tgts a e) at hi
        by_cases hd : a ∈ done'
        · rw [if_pos hd] at hi; exact absurd hi List.not_mem_nil
        · rw [if_neg hd] at hi; exact (hk.1 a e hi).elim ha fun h => hd ((hm a).2 h)
      · rw [List.mem_append, List.mem_singleton, List.mem_cons, hm a, or_comm]
      · rw [teardown_dyn i es s' (hcs i), hs]; exact clearItems_append _ _ _
  exact step order [] [] s (fun _ => Iff.rfl) rfl hk

variable {cfg : Config} {d : Dyn}

theorem typeOf?_empty (h : DynEmptyOn cfg d) {x : Item} (hx : x ∈ cfg.items) : typeOf? u d x = none := by
  unfold typeOf?; rw [(h x hx).1]; rfl

theorem running_empty (h : DynEmptyOn cfg d) {x : Item} (hx : x ∈ cfg.items) : running u d x = [] := by
  unfold running typeEffects; rw [typeOf?_empty h hx]; rfl

theorem localSpecs_empty (h : DynEmptyOn cfg d) {x : Item} (hx : x ∈ cfg.items) : localSpecs u d x = [] := by
  unfold localSpecs; rw [running_empty h hx]; rfl

theorem projSpecs_empty (h : DynEmptyOn cfg d) {x : Item} (hx : x ∈ cfg.items) : projSpecs u cfg d x = [] := by
  unfold projSpecs; rw [running_empty h hx]; rfl

theorem targetsOf_empty (h : DynEmptyOn cfg d) {x : Item} (hx : x ∈ cfg.items) (e : Effect) :
    targetsOf cfg d x e = [] := by
  unfold targetsOf; rw [((h x hx).2 e.id).2.1]; rfl

theorem allSpecs_empty (h : DynEmptyOn cfg d) : allSpecs u cfg d = [] :=
  List.flatMap_eq_nil_iff.2 fun a ha => by rw [localSpecs_empty h ha, projSpecs_empty h ha]; rfl

theorem affectees_empty (h : DynEmptyOn cfg d) (s : Spec) : affectees u cfg d s = [] := by
  unfold affectees
  refine List.filter_eq_nil_iff.2 (fun x hx => ?_)
  rw [typeOf?_empty h hx]; simp

theorem specsOn_empty (h : DynEmptyOn cfg d) (x : Item) (tx : ItemType) (attr : Int) :
    specsOn u cfg d x tx attr = [] := by
  unfold specsOn; rw [allSpecs_empty h]; rfl

theorem directOf_empty (h : DynEmptyOn cfg d) (specs : List Spec) : directOf u cfg d specs = [] :=
  List.flatMap_eq_nil_iff.2 fun s _ => by rw [affectees_empty h]; rfl

theorem deps_empty (h : DynEmptyOn cfg d) (n : Node) : deps u cfg d n = [] := by
  unfold deps
  cases hx : item? cfg n.1 with
  | none => rfl
  | some x =>
    cases ham : attrMeta? u n.2 with
    | none => rfl
    | some am =>
      simp only [typeOf?_empty h (item?_mem hx)]
      split <;> rfl

/-- Of the reverse-dependency enumerators only the static cap table remains. -/
theorem rdeps_empty (h : DynEmptyOn cfg d) (n : Node) :
    rdeps u cfg d n = match item? cfg n.1 with
      | none => []
      | some y => (u.attrs.filter fun am => am.maxAttr == some n.2).map fun am => (y.id, am.id) := by
  unfold rdeps
  cases hy : item? cfg n.1 with
  | none => rfl
  | some y =>
    have h3 : (cfg.items.flatMap fun a =>
        ((projSpecs u cfg d a).filter fun s =>
            s.e.resistAttr == some n.2 && n.2 != 0 &&
            (targetsOf cfg d a s.e).any fun t =>
              t.id == y.id || (y.kind.ownerModifiable && shipOf cfg y.fit == some t.id)).flatMap
          fun s => (affectees u cfg d s).map fun x => (x.id, s.m.tgtAttr)) = [] :=
      List.flatMap_eq_nil_iff.2 fun a ha => by rw [projSpecs_empty h ha]; rfl
    simp only [h3, localSpecs_empty h (item?_mem hy), projSpecs_empty h (item?_mem hy), List.append_nil,
      List.filter_nil, List.flatMap_nil]

end Eos.Micro.L
