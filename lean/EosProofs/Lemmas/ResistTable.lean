import EosProofs.Lemmas.GatherVia
import EosProofs.Lemmas.ResistTable04
import EosProofs.Lemmas.ResistTable05
import EosProofs.Lemmas.ResistTable06
import EosProofs.Lemmas.ResistTable08
import EosProofs.Lemmas.Selection
import EosGen.ResistTable
/-! C02: the per-block kernel checks of the regenerated resistance table put together, and translated from what
the kernel evaluated (selection and resistance factor of the selected items, a few facts about the row) to
statements about every case, `Eos.World.gather` itself included (`gatherOutcome_projected`). -/
namespace Eos.C02
open Eos.AffectsSpec Eos.World EosGen.ResistTable

structure ResistGood (c : ResistCase) : Prop where
  typed : c.x.typeId = c.tx.id
  scr : specResist c = some c.obs
  inc : specResist c = some c.obsInc
  gather : ∃ v, baseReader c.u c.cfg c.a c.m.srcAttr = .ok v ∧
    gatherOutcome (gather c.u c.cfg specImmune (baseReader c.u c.cfg) c.x c.tx c.m.tgtAttr) c.m.op v = some c.obs

variable {items : List Item} {types : List ItemType}

theorem factorOf_recorded {sel : Item → ItemType → Bool} {g : Item → Val} {obs : List (Nat × Rat)}
    (hnd : ((items.zip types).map (·.1.id)).Nodup)
    (h : (chosen sel items types).map (fun q => (q.1.id, g q.1)) = obs.map fun o => (o.1, Val.ok o.2))
    {p : Item × ItemType} (hp : p ∈ items.zip types) :
    (factorOf obs p.1.id).map Val.ok = if sel p.1 p.2 then some (g p.1) else none := by
  have := congrArg (fun l => (l.find? (·.1 == p.1.id)).map (·.2)) h
  simp only [List.find?_map, Option.map_map] at this
  rw [show ((·.1 == p.1.id) ∘ fun q : Item × ItemType => (q.1.id, g q.1)) = (·.1.id == p.1.id) from rfl,
    find?_chosen hnd sel hp] at this
  rw [factorOf, Option.map_map]
  exact this.symm.trans (by split <;> rfl)

theorem specResist_recorded {c : ResistCase} {o : Option Rat}
    (h : o.map Val.ok = if affectsProjected c.cfg c.a c.m c.t c.x c.tx then
      some (resistOf c.cfg (baseReader c.u c.cfg) c.e c.x) else none) : specResist c = some o := by
  unfold specResist
  cases hs : affectsProjected c.cfg c.a c.m c.t c.x c.tx <;> cases o <;> simp_all
  rw [← h]

theorem _root_.Eos.AffectsSpec.ResistRow.ok_spec {r : ResistRow} (h : r.ok = true) :
    Tally ResistGood (·.obs.isSome) (·.valid) r.cases r.tally.1 r.tally.2.1 r.tally.2.2 := by
  obtain ⟨w, m, valid, obs, inc⟩ := r
  cases ha : item? w.cfg w.affector with
  | none => simp [ResistRow.ok, ha] at h
  | some a =>
    cases ht : w.target.bind (item? w.cfg) with
    | none => simp [ResistRow.ok, ha, ht] at h
    | some t =>
      simp only [ResistRow.ok, ha, ht, Sel.pick_eq, Bool.and_eq_true, beq_iff_eq, Bool.not_eq_true', and_assoc] at h
      obtain ⟨hal, hsole, hcat, hbuff, htgt, hdom, hv, hobs, hinc⟩ := h
      -- `hv`, `hobs`, `hinc` read `w.universe []` and `w.eff` where the cases have `w.universe [m]` and the effect with
      -- `m`: `baseReader` and `resistOf` do not look at the modifiers, either unfolds to the other
      obtain ⟨hlen, hndI, hnd, hty⟩ := aligned_spec hal
      obtain ⟨ta, e, hact, he⟩ := soleEffect_spec hsole hndI ha
      obtain rfl : e = { w.eff with mods := [] } := List.mem_singleton.1 he
      replace hact : activeItems (w.universe [m]) w.cfg = [(a, ta, [{ w.eff with mods := [m] }])] := by
        rw [activeItems_universe, hact]; rfl
      obtain ⟨v, hv⟩ : ∃ v, baseReader (w.universe [m]) w.cfg a m.srcAttr = .ok v := by
        split at hv
        · exact ⟨_, ‹_›⟩
        · cases hv
      have hp : projectionTargets w.cfg a { w.eff with mods := [m] } = [t] := by
        cases hw : w.target with
        | none => simp [hw] at ht
        | some i => simp [projectionTargets, hcat, htgt, hw, show item? w.cfg i = some t by simpa [hw] using ht]
      have hG := gatherOutcome_projected hact rfl hdom hbuff hp hv specImmune
      have hspec {l : List (Nat × Rat)} {p : Item × ItemType} (hp : p ∈ w.cfg.items.zip w.types)
          (hl : (chosen (selProjected false w.cfg a m t).eval w.cfg.items w.types).map (fun q => (q.1.id,
              resistOf w.cfg (baseReader (w.universe [m]) w.cfg) { w.eff with mods := [m] } q.1)) =
            l.map fun o => (o.1, Val.ok o.2)) (o oi : Option Rat) :
          specResist ⟨w.universe [m], w.cfg, a, { w.eff with mods := [m] }, m, t, p.1, p.2, valid, o, oi⟩ =
            some (factorOf l p.1.id) :=
        specResist_recorded (by simpa only [eval_selProjected_spec] using factorOf_recorded hnd hl hp)
      simp only [ResistRow.cases, ha, ht, ResistRow.tally, ← hlen]
      rw [← List.length_map (as := obs) (fun o => (o.1, Val.ok o.2)), ← hobs, List.length_map]
      refine Tally.map _ valid (fun p hp => ⟨hty p hp, hspec hp hobs _ _, hspec hp hinc _ _,
        ⟨v, hv, (hG p.1 p.2).trans (hspec hp hobs none none)⟩⟩) (fun p hp => ?_) fun _ _ => rfl
      have := congrArg Option.isSome (factorOf_recorded hnd hobs hp)
      rw [Option.isSome_map] at this
      exact this.trans (by cases (selProjected false w.cfg a m t).eval p.1 p.2 <;> rfl)

theorem resistBlockOk_spec {rows : List ResistRow} {n k v : Nat} (h : resistBlockOk rows n k v = true) :
    Tally ResistGood (·.obs.isSome) (·.valid) (resistCasesOf rows) n k v :=
  blockOkBy_spec h fun _ => ResistRow.ok_spec

theorem resist_table : Tally ResistGood (·.obs.isSome) (·.valid) resistCases
    resistCaseCount resistModifiedCount resistValidCount :=
  (resistBlockOk_spec resist_block04_ok).cons <| (resistBlockOk_spec resist_block05_ok).cons <|
  (resistBlockOk_spec resist_block06_ok).cons <| (resistBlockOk_spec resist_block08_ok).cons <| .nil _

end Eos.C02
