import EosProofs.Lemmas.ModInfo
import EosGen.ModInfoTable
namespace Eos.C19
open Eos.ModInfo EosGen.ModInfoTable

theorem blocks_ok :
    (blocks0 ++ blocks1 ++ blocks2 ++ blocks3 ++ blocks4).all (fun b => blockSpecLin b.1 == some b.2) = true := by
  decide +kernel

end Eos.C19
