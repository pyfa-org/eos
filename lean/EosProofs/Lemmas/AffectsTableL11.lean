import EosGen.AffectsTableL11
namespace Eos.C02
open Eos.AffectsSpec EosGen.AffectsTable

theorem affects_blockL11_ok : localBlockOk blockL11 blockL11Cases blockL11Modified blockL11Valid = true := by decide +kernel

end Eos.C02
