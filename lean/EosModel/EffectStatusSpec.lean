import EosModel.Num
/-! Effect status (property C05), specification.

Part 1 is the hand-written *specification* of which effects run, written from the `EffectMode`
doc-comments in `eos/const/eos.py` and the property statement (not from `effect_status.py`).
Part 2 is the expected shape of the complete decision table (`EosGen.EffectStatusTable`).
The state machine built on it is in `EosModel/EffectStatus.lean`. -/
namespace Eos.EffectStatus

/-! ## 1. Specification -/

inductive State | offline | online | active | overload
  deriving DecidableEq, Repr, Inhabited

namespace State
def toNat : State → Nat | offline => 1 | online => 2 | active => 3 | overload => 4
def ofNat? : Nat → Option State
  | 1 => some offline | 2 => some online | 3 => some active | 4 => some overload | _ => none
def name : State → String
  | offline => "offline" | online => "online" | active => "active" | overload => "overload"
def all : List State := [offline, online, active, overload]
/-- "item is in `a`+ state": states are ordered by their ids. -/
def le (a b : State) : Bool := a.toNat ≤ b.toNat
end State

/-- Effect run mode; `unknown` is any value that is not an `EffectMode`. -/
inductive ModeK | full | stateC | forceRun | forceStop | unknown
  deriving DecidableEq, Repr

def ModeK.ofId : Nat → ModeK
  | 1 => .full | 2 => .stateC | 3 => .forceRun | 4 => .forceStop | _ => .unknown

/-- The four documented run modes and their ids. -/
def modeNames : List (String × Nat) :=
  [("full_compliance", 1), ("state_compliance", 2), ("force_run", 3), ("force_stop", 4)]

/-- Run mode an effect has when nothing was set for it. -/
def defaultMode : Nat := 1

inductive Cat | passive | active | target | area | online | overload | dungeon | system
  deriving DecidableEq, Repr

namespace Cat
def toNat : Cat → Nat
  | passive => 0 | active => 1 | target => 2 | area => 3 | online => 4 | overload => 5 | dungeon => 6 | system => 7
def all : List Cat := [passive, active, target, area, online, overload, dungeon, system]
def name : Cat → String
  | passive => "passive" | active => "active" | target => "target" | area => "area" | online => "online"
  | overload => "overload" | dungeon => "dungeon" | system => "system"
def ofNat? (n : Nat) : Option Cat := all.find? (·.toNat == n)
/-- State from which effects of the category may run; `area` and `dungeon` have none (undocumented). -/
def state? : Cat → Option State
  | passive => some .offline | system => some .offline | online => some .online
  | active => some .active | target => some .active | overload => some .overload
  | area => none | dungeon => none
end Cat

/-- What full compliance looks at besides the state. -/
structure Traits where
  isDefault : Bool      -- it is the item type's default effect
  hasChance : Bool      -- a fitting usage chance is specified for it
  isOnline : Bool       -- it is the 'online' effect itself
  deriving DecidableEq, Repr

/-- Full compliance, per effect category (quoted from the `EffectMode.full_compliance` comment):
    offline: "run when item is in offline+ state, and when they do not have fitting usage chance specified";
    online: "run when item is in online+ state, and when item has runnable 'online' effect";
    active: "run when item is in active+ state, and only when effect is default item effect";
    overload: "run when item is in overload+ state". -/
def fullExtra (es : State) (t : Traits) (onlineRuns : Bool) : Bool :=
  match es with
  | .offline => !t.hasChance
  | .online => t.isOnline || onlineRuns
  | .active => t.isDefault
  | .overload => true

/-- Should an effect whose category starts at state `es` run on an item in state `st`? -/
def decideStatus (st : State) (mode : ModeK) (es : State) (t : Traits) (onlineRuns : Bool) : Bool :=
  match mode with
  | .full => es.le st && fullExtra es t onlineRuns
  | .stateC => es.le st            -- "always run if item's state is high enough to run it"
  | .forceRun => true              -- "always running no matter what"
  | .forceStop => false            -- "never running no matter what"
  | .unknown => false

/-! ## 2. Shape of the generated decision table -/

inductive Online | absent | present (mode : Nat) | self
  deriving DecidableEq, Repr

def Online.toNat : Online → Nat | .absent => 0 | .present m => m | .self => 6

structure Key where
  st : State
  mode : Nat
  cat : Cat
  isDefault : Bool
  online : Online
  hasChance : Bool
  override : Option State
  deriving DecidableEq, Repr

def modeValues : List Nat := [1, 2, 3, 4, 5]
def onlineValues : List Online := [.absent, .present 1, .present 2, .present 3, .present 4, .present 5, .self]
def overrideValues : List (Option State) := none :: State.all.map some

/-- All keys for one item state and effect run mode, in the order the generator walks them. The effect
    in question can be 'online' itself only in category online (the effect factory forces that category). -/
def keysFor (s : State) (m : Nat) : List Key :=
  Cat.all.flatMap fun c => [false, true].flatMap fun d => onlineValues.flatMap fun o =>
  [false, true].flatMap fun h => overrideValues.filterMap fun v =>
    if o = .self ∧ c ≠ .online then none else some ⟨s, m, c, d, o, h, v⟩

def keyPartsOf (s : State) : List (List Key) := modeValues.map fun m => keysFor s m

/-- The complete product, one part per (item state, effect run mode). -/
def keyParts : List (List Key) := State.all.flatMap keyPartsOf

def allKeys : List Key := keyParts.flatten

def b2n (b : Bool) : Nat := if b then 1 else 0

/-- Decimal packing used by the generated rows: digits `s m c d o h v` (then the outcome digit). -/
def Key.pack (k : Key) : Nat :=
  (((((k.st.toNat * 10 + k.mode) * 10 + k.cat.toNat) * 10 + b2n k.isDefault) * 10 + k.online.toNat) * 10
    + b2n k.hasChance) * 10 + (match k.override with | none => 0 | some v => v.toNat)

/-- State the decision is taken for: the override when one is given, else the item's. -/
def Key.effState (k : Key) : State := match k.override with | none => k.st | some v => v

/-- Does the 'online' effect of the row's item run (it is resolved for the same state)? -/
def Key.onlineRuns (k : Key) : Bool :=
  match k.online with
  | .present m => decideStatus k.effState (ModeK.ofId m) .online ⟨false, false, true⟩ false
  | _ => false

/-- Specified outcome; `none` for categories without a documented state. -/
def Key.spec (k : Key) : Option Bool :=
  k.cat.state?.map fun es =>
    decideStatus k.effState (ModeK.ofId k.mode) es ⟨k.isDefault, k.hasChance, k.online == .self⟩ k.onlineRuns

/-- A generated row is the row of key `k` and, where the category is documented, has the specified outcome. -/
def rowOk (row : Nat) (k : Key) : Bool :=
  row / 10 == k.pack && (match k.spec with | some b => row % 10 == b2n b | none => true)

def rowsOk : List Nat → List Key → Bool
  | [], [] => true
  | r :: rs, k :: ks => rowOk r k && rowsOk rs ks
  | _, _ => false

def partsOk : List (List Nat) → List (List Key) → Bool
  | [], [] => true
  | p :: ps, k :: ks => rowsOk p k && partsOk ps ks
  | _, _ => false

/-- Strictly increasing and above `lo` (a linear-time check of "every key occurs once"; the proofs do not use it:
`EosProofs/Lemmas/C05Keys.lean` shows by argument that the keys of the product are pairwise different). -/
def sortedAbove : Nat → List Nat → Bool
  | _, [] => true
  | lo, x :: xs => decide (lo < x) && sortedAbove x xs

def lastOr (lo : Nat) : List Nat → Nat
  | [] => lo
  | x :: xs => lastOr x xs

def chainParts : Nat → List (List Nat) → Bool
  | _, [] => true
  | lo, p :: ps => sortedAbove lo p && chainParts (lastOr lo p) ps

end Eos.EffectStatus
