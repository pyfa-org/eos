import EosModel.AffectsSpec
/-! # Cases of the regenerated resistance table (C02) and fleet-boost table (C13)

`tools/gen/resist_table.py` and `tools/gen/fleet_table.py` build small worlds through the public API of the real
code and record, for every item, whether (and with which resistance factor) one designated attribute is modified —
from scratch and incrementally, as in `EosModel/AffectsSpec.lean`.  A recorded world here also carries what the
specification's `gather` needs: the source's item types, the effect under test, the buff templates.  The
specification's answers are `resistOf`, `boostTargets` + `affectsProjected`, `buffModifiers` and the whole `gather`
(which also goes through `runningEffects`, `projectionTargets` and `mk`).  Attribute values the specification reads
(`rd`) are the type's base values (`baseReader`): the worlds are designed so that nothing modifies the source,
resistance or buff attributes (a property of the generators' worlds, not checked here), so the table theorems say
what `gather` collects, not what the value pipeline makes of it.  Same namespace as `EosModel/AffectsSpec.lean`, of
which this file is the continuation for the two tables that need `Eos.Calc`.  Mathlib-free. -/
namespace Eos.AffectsSpec
open Eos.World Eos.Calc

/-- A recorded world with the part of the universe `gather` looks at. -/
structure GWorld where
  cfg : Config
  types : List ItemType          -- aligned with `cfg.items`
  utypes : List ItemType         -- the item types of the source
  eff : Effect                   -- the effect under test, without its modifiers
  buffs : List BuffTemplate
  affector : Nat
  target : Option Nat
  deriving Repr

def GWorld.universe (w : GWorld) (mods : List Modifier) : Universe :=
  { attrs := [], effects := [{ w.eff with mods := mods }], types := w.utypes, buffs := w.buffs }

/-- Reads the unmodified (type) value of an attribute; a skill's level as `readDep` does. -/
def baseReader (u : Universe) (cfg : Config) : Reader := fun it a =>
  if it.kind == .skill && a == 280 then (match it.level with | some l => .ok l | none => .absent)
  else match itemType? u cfg it with
    | some ty => (match ty.attrs.find? (·.1 == a) with | some p => .ok p.2 | none => .absent)
    | none => .absent

/-- What a gathered list says about ONE expected modification `(op, v)`: `some none` nothing gathered,
`some (some r)` exactly that modification with resistance factor `r`, `none` anything else. -/
def gatherOutcome (g : Except Val (List Mod)) (op : Nat) (v : Rat) : Option (Option Rat) :=
  match g with
  | .ok [] => some none
  | .ok [md] => if md.op == op && md.value == v then some (some md.resist) else none
  | _ => none

def factorOf (l : List (Nat × Rat)) (i : Nat) : Option Rat := (l.find? (·.1 == i)).map (·.2)

/-! ## A world with one running effect

The block checks do not evaluate `gather`: in these worlds exactly one item runs exactly one effect
(`soleEffect`), and `EosProofs/Lemmas/GatherVia.lean` derives, for all arguments, what `gather` then returns from
the selection, the resistance factor and a few facts about the row. -/

/-- The loaded items with at least one running effect, with their type and running effects. -/
def activeItems (u : Universe) (cfg : Config) : List (Item × ItemType × List Effect) :=
  cfg.items.filterMap fun b =>
    match itemType? u cfg b with
    | none => none
    | some ta => if (runningEffects u cfg b).isEmpty then none else some (b, ta, runningEffects u cfg b)

/-- `mk` of `gather` (the proofs use its twin `Eos.World.mkMod` of `Lemmas/CalcWorld.lean`: `mkModG_eq` in `Lemmas/GatherVia.lean`). -/
def mkModG (cfg : Config) (rd : Reader) (x a : Item) (e : Effect) (imm : Bool) (m : Modifier) (acc : List Mod) :
    Except Val (List Mod) :=
  match rd a m.srcAttr with
  | .absent => .ok acc
  | .ok v => (match resistOf cfg rd e x with
    | .ok r => .ok (acc ++ [{ op := m.op, value := v, resist := r, agg := m.agg, aggKey := m.aggKey, immune := imm }])
    | w => .error w)
  | w => .error w

/-- The body of `gather` for one running effect `e` of item `a` (of type `ta`); the proofs use its twin
`Eos.World.effStep` (`effStepG_eq`). -/
def effStepG (u : Universe) (cfg : Config) (immune : List Int) (rd : Reader) (x : Item) (tx : ItemType) (attr : Int)
    (a : Item) (ta : ItemType) (acc : List Mod) (e : Effect) : Except Val (List Mod) := do
  let imm := match ta.category with | some c => immune.contains c | none => false
  let acc ← (e.mods.filter fun m => m.tgtAttr == attr && affectsLocal cfg a m x tx).foldlM (init := acc)
    fun acc m => mkModG cfg rd x a e imm m acc
  let acc ← (projectionTargets cfg a e).foldlM (init := acc) fun acc tg =>
    (e.mods.filter fun m => m.domain == 4 && m.tgtAttr == attr && affectsProjected cfg a m tg x tx).foldlM
      (init := acc) fun acc m => mkModG cfg rd x a e imm m acc
  if e.isBuff then do
    let bms ← (if u.buffs.any (·.tgtAttr == attr) then buffModifiers u rd a else pure [])
    let bms := bms ++ e.mods.filter (·.domain == 4)
    (boostTargets cfg a.fit).foldlM (init := acc) fun acc tg =>
      (bms.filter fun m => m.tgtAttr == attr && affectsProjected cfg a m tg x tx).foldlM
        (init := acc) fun acc m => mkModG cfg rd x a e imm m acc
  else pure acc

/-- Exactly one item runs an effect, the affector, and it runs exactly one.  Only the items of a type with effects
are asked: the check expects one such type, and taking it out of the universe first leaves a question about the
item alone, whose answer the worlds of a block share. -/
def soleEffect (u : Universe) (cfg : Config) (affector : Nat) : Bool :=
  match u.types.filter (!·.effects.isEmpty) with
  | [ty] =>
    (match activeItems u { cfg with items := cfg.items.filter (·.typeId == ty.id) } with
    | [(b, _, [_])] => b.id == affector
    | _ => false)
  | _ => false

/-! ## Resistance table -/

structure ResistRow where
  w : GWorld
  m : Modifier
  valid : Bool                    -- `modifier._valid` of the real modifier object
  obs : List (Nat × Rat)          -- (item id, factor applied) of the modified items, world built from scratch
  obsInc : List (Nat × Rat)       -- the same, target set after every item was read
  deriving Repr

structure ResistCase where
  u : Universe
  cfg : Config
  a : Item
  e : Effect
  m : Modifier
  t : Item
  x : Item
  tx : ItemType
  valid : Bool
  obs : Option Rat                -- `none`: not modified; `some r`: modified, factor `r`
  obsInc : Option Rat
  deriving Repr

/-- Selection and resistance: is `x` selected, and with which factor (`none` = the specification errs). -/
def specResist (c : ResistCase) : Option (Option Rat) :=
  if affectsProjected c.cfg c.a c.m c.t c.x c.tx then
    match resistOf c.cfg (baseReader c.u c.cfg) c.e c.x with
    | .ok r => some (some r)
    | _ => none
  else some none

def ResistRow.cases (r : ResistRow) : List ResistCase :=
  match item? r.w.cfg r.w.affector, r.w.target.bind (item? r.w.cfg) with
  | some a, some t => (r.w.cfg.items.zip r.w.types).map fun p =>
      ⟨r.w.universe [r.m], r.w.cfg, a, { r.w.eff with mods := [r.m] }, r.m, t, p.1, p.2, r.valid,
        factorOf r.obs p.1.id, factorOf r.obsInc p.1.id⟩
  | _, _ => []

def resistCasesOf (rows : List ResistRow) : List ResistCase := rows.flatMap ResistRow.cases

/-- Row check (shaped by what kernel evaluation costs, see `EosModel/AffectsSpec.lean`).  Selection and
resistance: the recorded (id, factor) lists are the selected items with their `resistOf`, under both
observations.  `gather`: the affector runs the world's only effect, which is projected onto the target and not a
fleet boost, the modifier has domain target and its source attribute a value
(`Eos.AffectsSpec.gatherOutcome_projected`).  Which effects run, what the reader reads and the resistance factor do
not depend on the modifier: asked of the universe and the effect without modifiers they are questions about the world
alone, answered once for its rows. -/
def ResistRow.ok : ResistRow → Bool
  | ⟨w, m, _, obs, inc⟩ =>
    match item? w.cfg w.affector, w.target.bind (item? w.cfg) with
    | some a, some t =>
      let rd := baseReader (w.universe []) w.cfg
      let exp := ((selProjected false w.cfg a m t).pick w.cfg.items w.types).map fun p =>
        (p.1.id, resistOf w.cfg rd w.eff p.1)
      aligned w.cfg.items w.types && soleEffect (w.universe []) w.cfg w.affector &&
        w.eff.category == 2 && !w.eff.isBuff && a.target == w.target && m.domain == 4 &&
        (match rd a m.srcAttr with | .ok _ => true | _ => false) &&
        exp == obs.map (fun o => (o.1, .ok o.2)) && exp == inc.map (fun o => (o.1, .ok o.2))
    | _, _ => false

def ResistRow.tally : ResistRow → Nat × Nat × Nat
  | ⟨w, _, valid, obs, _⟩ => (w.cfg.items.length, obs.length, if valid then w.cfg.items.length else 0)

def resistBlockOk : List ResistRow → Nat → Nat → Nat → Bool := blockOkBy ResistRow.ok ResistRow.tally

/-! ## Fleet-boost table -/

structure FleetRow where
  w : GWorld
  m : Modifier                    -- the modifier the service makes of one buff template
  obs : List Nat                  -- ids of the boosted items, world built from scratch (booster started last)
  obsInc : List Nat               -- the same, booster started after every item was read
  deriving Repr

structure FleetCase where
  u : Universe
  cfg : Config
  a : Item
  m : Modifier
  x : Item
  tx : ItemType
  obs : Bool
  obsInc : Bool
  deriving Repr

/-- "the ships of the boosting fit and of the fits in its fleet", then the projected filter onto each. -/
def specBoost (c : FleetCase) : Bool :=
  (boostTargets c.cfg c.a.fit).any fun tg => affectsProjected c.cfg c.a c.m tg c.x c.tx

def FleetRow.cases (r : FleetRow) : List FleetCase :=
  match item? r.w.cfg r.w.affector with
  | some a => (r.w.cfg.items.zip r.w.types).map fun p =>
      ⟨r.w.universe [], r.w.cfg, a, r.m, p.1, p.2, r.obs.contains p.1.id, r.obsInc.contains p.1.id⟩
  | none => []

def fleetCasesOf (rows : List FleetRow) : List FleetCase := rows.flatMap FleetRow.cases

/-- Row check.  Selection: the recorded ids are the items some boosted ship's selection holds, under both
observations.  `buffModifiers`: the recorded modifier is the one the specification makes for its attribute.
`gather`: the affector runs the world's only effect, a fleet boost without resistance attribute, the source
attribute has a value, and no item is selected through two ships (`Eos.AffectsSpec.gatherOutcome_boost`). -/
def FleetRow.ok : FleetRow → Bool
  | ⟨w, m, obs, inc⟩ =>
    match item? w.cfg w.affector with
    | some a =>
      let rd := baseReader (w.universe []) w.cfg
      match buffModifiers (w.universe []) rd a, rd a m.srcAttr with
      | .ok bms, .ok _ =>
        let sels := (boostTargets w.cfg a.fit).map (selProjected false w.cfg a m)
        let boosted := pickAny sels w.cfg.items w.types
        aligned w.cfg.items w.types && soleEffect (w.universe []) w.cfg w.affector &&
          w.eff.isBuff && w.eff.resistAttr.isNone && w.buffs.any (·.tgtAttr == m.tgtAttr) &&
          bms.filter (·.tgtAttr == m.tgtAttr) == [m] &&
          (sels.length ≤ 1 || boosted.all fun p => sels.countP (·.eval p.1 p.2) == 1) &&
          boosted.map (·.1.id) == obs && boosted.map (·.1.id) == inc
      | _, _ => false
    | none => false

def FleetRow.tally : FleetRow → Nat × Nat × Nat
  | ⟨w, _, obs, _⟩ => (w.cfg.items.length, obs.length, 0)

def fleetBlockOk (rows : List FleetRow) (n k : Nat) : Bool := blockOkBy FleetRow.ok FleetRow.tally rows n k 0

end Eos.AffectsSpec
