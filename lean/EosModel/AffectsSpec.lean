import EosModel.World
/-! # Cases of the regenerated "which items does a modifier select" table (property C02)

`tools/gen/affects_table.py` builds small worlds through the public API of the real code, one modifier per
world, and records which items have their attribute modified — twice: *from scratch* (the complete world is
built, then every item is read) and *incrementally* (the world is built with the effect stopped / the projector
not targeting, every item is read, the effect is started / the target is set, every item is read again; this
observation also depends on which items the code invalidates, `get_local_affectee_items` /
`get_projected_affectee_items`).  A generated *row* is a recorded world (the public configuration and the item
types, read back from the live objects), the modifier, the verdict of the library's own modifier validation
(`DogmaModifier._valid`, called by the generator), and the ids of the modified items under either observation; a
row expands to one *case* per item of the world.  `specLocal` / `specProjected` are the
specification's answers (`Eos.World.affectsLocal` / `affectsProjected`) on the case; the property theorems
(`Props/C02.lean`, section I) are about them.  The second half of the file is the checker the kernel evaluates on the
rows (`Sel`, `LocalRow.ok`, `blockOkBy`): it does not run `affectsLocal` on the cases; that a row which passes means
what the theorems say of its cases is proved in `EosProofs/Lemmas/Selection.lean`.  Mathlib-free. -/
namespace Eos.AffectsSpec
open Eos.World

/-- A recorded world: public configuration, the types of its items (`types` is aligned with `cfg.items`: the
i-th entry is the type the source serves for the i-th item), the item carrying the modifier. -/
structure AWorld where
  cfg : Config
  types : List ItemType
  affector : Nat
  deriving Repr

/-- A generated row of the local table. -/
structure LocalRow where
  w : AWorld
  m : Modifier
  valid : Bool               -- `modifier._valid` of the real modifier object
  modified : List Nat        -- ids of the items whose attribute the real code modified (world built from scratch)
  modifiedInc : List Nat     -- the same after cache-filling reads, effect started afterwards
  deriving Repr

/-- A generated row of the projected table (`target` = the item the projector targets). -/
structure ProjRow where
  w : AWorld
  target : Nat
  m : Modifier
  valid : Bool
  modified : List Nat
  modifiedInc : List Nat     -- after cache-filling reads, target set afterwards
  deriving Repr

/-- One observation: in configuration `cfg`, is attribute `m.tgtAttr` of the loaded item `x` (of type `tx`)
modified by the local modifier `m` of a running effect of `a`? -/
structure LocalCase where
  cfg : Config
  a : Item
  m : Modifier
  x : Item
  tx : ItemType
  valid : Bool               -- does the library's validation accept the modifier (`_valid` of the real object)
  modified : Bool            -- the real code's answer, world built from scratch
  modifiedInc : Bool         -- the real code's answer, effect started after every item was read
  deriving Repr

structure ProjCase where
  cfg : Config
  a : Item
  m : Modifier
  t : Item
  x : Item
  tx : ItemType
  valid : Bool
  modified : Bool
  modifiedInc : Bool
  deriving Repr

/-- The specification's answer for a local case. -/
def specLocal (c : LocalCase) : Bool := affectsLocal c.cfg c.a c.m c.x c.tx

/-- The specification's answer for a projected case. -/
def specProjected (c : ProjCase) : Bool := affectsProjected c.cfg c.a c.m c.t c.x c.tx

/-- The cases of a row: one per item of the recorded world (a row whose affector is not an item of the world, or
a type list shorter than the item list, would yield fewer cases — the generated case counts exclude that; that
the i-th type is the i-th item's type is part of the row checks, `aligned`). -/
def LocalRow.cases (r : LocalRow) : List LocalCase :=
  match item? r.w.cfg r.w.affector with
  | none => []
  | some a => (r.w.cfg.items.zip r.w.types).map fun p => ⟨r.w.cfg, a, r.m, p.1, p.2, r.valid, r.modified.contains p.1.id, r.modifiedInc.contains p.1.id⟩

def ProjRow.cases (r : ProjRow) : List ProjCase :=
  match item? r.w.cfg r.w.affector, item? r.w.cfg r.target with
  | some a, some t => (r.w.cfg.items.zip r.w.types).map fun p =>
      ⟨r.w.cfg, a, r.m, t, p.1, p.2, r.valid, r.modified.contains p.1.id, r.modifiedInc.contains p.1.id⟩
  | _, _ => []

def localCasesOf (rows : List LocalRow) : List LocalCase := rows.flatMap LocalRow.cases
def projCasesOf (rows : List ProjRow) : List ProjCase := rows.flatMap ProjRow.cases

/-! ## Outside the domain: modifiers the library's own validation rejects

The table deliberately contains modifiers that `DogmaModifier._valid` rejects (and that `ModBuilder` therefore
never emits): a group / skill filter without argument, an en-masse filter with domain `other`, `owner_skillrq`
with a domain other than `character`.  `valid` is regenerated from the code.  On all of them but one kind the real
code still does what the specification says.  The exception: a `domain_group` modifier WITHOUT group argument
(`groupNoneRow`) — `AffectionRegister.get_affector_specs` looks an affectee up under
`(fit, domain, type.group_id)` without the `group_id is not None` guard of `__get_affectee_storages`, so in a world
built from scratch the group-less items of the domain are modified (`observedGroupNone*`), while
`get_local_affectee_items` never lists them: they are never invalidated, and the incremental observation agrees
with the specification (`Eos.World.passesFilter` requires `m.extra.isSome`).  These rows are checked against
what the real code does; the block check also establishes that every such row is one the validation rejects. -/

/-- Filter `domain_group`, no group argument (rejected by the library's validation). -/
def groupNoneRow (m : Modifier) : Bool := m.filter == 3 && m.extra.isNone

/-- What the real code does on a local `groupNoneRow` in a world built from scratch: it selects the items of the
resolved domain (same fit) whose type has no group. -/
def observedGroupNoneLocal (c : LocalCase) : Bool :=
  if c.m.domain == 4 then false
  else match resolveDomain c.a c.m.domain with
    | none => false
    | some d => c.x.fit == c.a.fit && c.x.kind.modDomain == some d && c.tx.group.isNone

/-- What the real code does on a projected `groupNoneRow` in a world built from scratch: the group-less items
aboard the targeted ship. -/
def observedGroupNoneProj (c : ProjCase) : Bool :=
  c.t.kind == .ship && shipOf c.cfg c.t.fit == some c.t.id && c.x.fit == c.t.fit &&
    c.x.kind.modDomain == some 3 && c.tx.group.isNone

/-! ## The block checks

`Sel` is what a modifier selects, as data: the part of `affectsLocal` / `affectsProjected` that does not depend on
the item looked at (filter and domain resolved, ship / character / contained items looked up), so that what is
left to do per item is a comparison or two (`Sel.eval`).

The shape of the checks below is dictated by what kernel evaluation costs.  The kernel evaluates by substitution
and remembers the weak head normal form of every term it has met, so a closed term costs once however often it
occurs, and a `match` on a `Sel` costs its computation once per row.  Hence: a row is taken apart first, which
leaves the world's *name* in the terms about the world alone (`aligned`, `items.zip types`), evaluated once per
world instead of once per row; per item only `Sel.eval` runs, and a selection that asks something of the type walks
the items of its domain only, which the rows with that domain find evaluated (`Sel.pick`); and the recorded ids are
compared, as a list, with the ids of the selected items (the generators record them while walking the items in
creation order, the order of the recorded configuration) instead of being searched once per item.
The block checks do not build the cases of the specification (`LocalRow.cases` …):
`EosProofs/Lemmas/Selection.lean` derives what holds of them, and how many there are, from the row checks. -/

inductive Sel
  | never
  | item (i : Nat)                         -- the item with id `i`
  | fitItem (f i : Nat)                    -- the same, if it is of fit `f`
  | anyOf (l : List Nat)                   -- the items with an id in `l`
  | domain (f d : Nat)                     -- the items of fit `f` in domain `d` …
  | group (f d : Nat) (g : Option Int)     -- … whose type has group `g`
  | skill (f d : Nat) (s : Int)            -- … whose type requires skill `s`
  | owner (f : Nat) (s : Int)              -- the owner-modifiable items of fit `f` whose type requires skill `s`

def Sel.eval : Sel → Item → ItemType → Bool
  | .never, _, _ => false
  | .item i, x, _ => x.id == i
  | .fitItem f i, x, _ => x.fit == f && x.id == i
  | .anyOf l, x, _ => l.contains x.id
  | .domain f d, x, _ => x.fit == f && x.kind.modDomain == some d
  | .group f d g, x, tx => x.fit == f && x.kind.modDomain == some d && tx.group == g
  | .skill f d s, x, tx => x.fit == f && x.kind.modDomain == some d && tx.reqSkills.contains s
  | .owner f s, x, tx => x.fit == f && x.kind.ownerModifiable && tx.reqSkills.contains s

/-- `passesFilter a m d` among the items of fit `f`.  `built`: what the real code does in a world built from
scratch, where a `domain_group` modifier without group argument selects the types without group
(`observedGroupNoneLocal`, `observedGroupNoneProj`). -/
def selFilter (built : Bool) (a : Item) (m : Modifier) (f d : Nat) : Sel :=
  if m.filter == 2 then .domain f d
  else if m.filter == 3 then
    (match m.extra with | some g => .group f d (some g) | none => if built then .group f d none else .never)
  else if m.filter == 4 then (match skillArg a m with | some s => .skill f d s | none => .never)
  else if m.filter == 5 then (match skillArg a m with | some s => .owner f s | none => .never)
  else .never

/-- `affectsLocal cfg a m` (`observedGroupNoneLocal` if `built` on a `groupNoneRow`). -/
def selLocal (built : Bool) (cfg : Config) (a : Item) (m : Modifier) : Sel :=
  if m.domain == 4 then .never
  else if m.filter == 1 then
    if m.domain == 1 then .item a.id
    else if m.domain == 2 then (match characterOf cfg a.fit with | some i => .fitItem a.fit i | none => .never)
    else if m.domain == 3 then (match shipOf cfg a.fit with | some i => .fitItem a.fit i | none => .never)
    else if m.domain == 5 then .anyOf ((others cfg a).map (·.id))
    else .never
  else match resolveDomain a m.domain with
    | none => .never
    -- the two domains there are, spelt as numerals: `d` is the row's `m.domain` unevaluated, a different term in every
    -- row, and `Sel.pick` shares the items of a domain between the rows that name it by the same term
    | some 2 => selFilter built a m a.fit 2
    | some 3 => selFilter built a m a.fit 3
    | some d => selFilter built a m a.fit d

/-- `affectsProjected cfg a m t` (`observedGroupNoneProj` if `built` on a `groupNoneRow`). -/
def selProjected (built : Bool) (cfg : Config) (a : Item) (m : Modifier) (t : Item) : Sel :=
  if m.filter == 1 then .item t.id
  else if t.kind == .ship && shipOf cfg t.fit == some t.id then selFilter built a m t.fit 3
  else .never

/-- The recorded world is well-formed: one type per item, the item's; the ids are `1, 2, …` (creation order). -/
def aligned (items : List Item) (types : List ItemType) : Bool :=
  types.length == items.length && items.map (·.id) == List.range' 1 items.length &&
    (items.zip types).all fun p => p.1.typeId == p.2.id

/-- The selected items, with their types. -/
def chosen (sel : Item → ItemType → Bool) (items : List Item) (types : List ItemType) : List (Item × ItemType) :=
  (items.zip types).filter fun p => sel p.1 p.2

/-- `chosen s.eval` (`Sel.pick_eq`).  A selection that is empty by its form is not walked through; one that asks
something of the type filters the items it can hold at all, a list the rows of a world share. -/
def Sel.pick : Sel → List Item → List ItemType → List (Item × ItemType)
  | .never, _, _ => []
  | .group f d g, items, types => (chosen (Sel.domain f d).eval items types).filter (·.2.group == g)
  | .skill f d s, items, types => (chosen (Sel.domain f d).eval items types).filter (·.2.reqSkills.contains s)
  | .owner f s, items, types =>
    (chosen (fun x _ => x.fit == f && x.kind.ownerModifiable) items types).filter (·.2.reqSkills.contains s)
  | s, items, types => chosen s.eval items types

/-- The items one of the selections holds (`pickAny_eq`). -/
def pickAny : List Sel → List Item → List ItemType → List (Item × ItemType)
  | [], _, _ => []
  | [s], items, types => s.pick items types
  | sels, items, types => chosen (fun x tx => sels.any (·.eval x tx)) items types

/-- The ids of the selected items, in item order. -/
def picked (s : Sel) (items : List Item) (types : List ItemType) : List Nat := (s.pick items types).map (·.1.id)

/-- The check of one recorded world with one modifier, `sel false` being the specification's selection and
`sel true` what the code is known to do in a world built from scratch (different on a `groupNoneRow` only: `gn`):
the incremental observation is the specification's selection; so is the one from scratch, except on a
`groupNoneRow`, which the validation rejects and where it is what the code is known to do. -/
def observedOk (items : List Item) (types : List ItemType) (gn valid : Bool) (sel : Bool → Sel)
    (scr inc : List Nat) : Bool :=
  aligned items types && picked (sel false) items types == inc &&
    if gn then !valid && picked (sel true) items types == scr else picked (sel false) items types == scr

def LocalRow.ok : LocalRow → Bool
  | ⟨w, m, valid, scr, inc⟩ =>
    match item? w.cfg w.affector with
    | some a => observedOk w.cfg.items w.types (groupNoneRow m) valid (fun built => selLocal built w.cfg a m) scr inc
    | none => false

def ProjRow.ok : ProjRow → Bool
  | ⟨w, target, m, valid, scr, inc⟩ =>
    match item? w.cfg w.affector, item? w.cfg target with
    | some a, some t =>
      observedOk w.cfg.items w.types (groupNoneRow m) valid (fun built => selProjected built w.cfg a m t) scr inc
    | _, _ => false

/-- Numbers of cases, of "modified" cases (from scratch) and of cases with a valid modifier of a row that is ok. -/
def LocalRow.tally : LocalRow → Nat × Nat × Nat
  | ⟨w, _, valid, scr, _⟩ => (w.cfg.items.length, scr.length, if valid then w.cfg.items.length else 0)

def ProjRow.tally : ProjRow → Nat × Nat × Nat
  | ⟨w, _, _, valid, scr, _⟩ => (w.cfg.items.length, scr.length, if valid then w.cfg.items.length else 0)

/-- Block check: every row is ok, and the rows' numbers (`tally`: cases, "modified" cases, cases with a valid
modifier) add up to `n`, `k`, `v`. -/
def blockOkBy {ρ : Type} (ok : ρ → Bool) (tally : ρ → Nat × Nat × Nat) (rows : List ρ) (n k v : Nat) : Bool :=
  rows.all ok &&
    rows.foldr (fun r s => ((tally r).1 + s.1, (tally r).2.1 + s.2.1, (tally r).2.2 + s.2.2)) (0, 0, 0) == (n, k, v)

def localBlockOk : List LocalRow → Nat → Nat → Nat → Bool := blockOkBy LocalRow.ok LocalRow.tally

def projBlockOk : List ProjRow → Nat → Nat → Nat → Bool := blockOkBy ProjRow.ok ProjRow.tally

end Eos.AffectsSpec
