import EosModel.WorldMicro
/-! Executable read for the message-level model: what `attrs[a]` does — return a cached value, or
calculate it (reading, hence caching, what the calculation reads, in the order `__calculate` and
`get_modifications` do) and cache it.  Used by `Driver/Micro.lean` for the cache-level correspondence. -/
namespace Eos.Micro
open Eos.World Eos.Calc

variable (u : Universe) (immune limited : List Int) (pen : Nat → Rat)

def readNode : Nat → Config → Dyn → Cache → Item → Int → Cache × Val
  | 0, _, _, K, _, _ => (K, .notWF)
  | f + 1, cfg, d, K, y, a =>
    if y.kind == .skill && a == 280 then (K, match y.level with | some l => .ok l | none => .absent)
    else match attrMeta? u a with
    | none => (K, .absent)
    | some am =>
      match K (y.id, a) with
      | some v => (K, .ok v)
      | none =>
        match typeOf? u d y with
        | none => (K, .absent)
        | some ty =>
          match baseOf ty am with
          | none => (K, .absent)
          | some b =>
            -- get_modifications: source value first, the resistance only when the source has a value
            let g := (specsOn u cfg d y ty am.id).foldl (init := ((K, Except.ok []) : Cache × Except Val (List Mod)))
              fun (st : Cache × Except Val (List Mod)) sp =>
                match st.2 with
                | .error _ => st
                | .ok l =>
                  let r1 := readNode f cfg d st.1 sp.a sp.m.srcAttr
                  match r1.2 with
                  | .absent => (r1.1, .ok l)
                  | .ok v =>
                    let mk (rr : Rat) : Mod :=
                      { op := sp.m.op, value := v, resist := rr, agg := sp.m.agg, aggKey := sp.m.aggKey,
                        immune := immuneOf u d immune sp.a }
                    (match resistRead cfg sp.e y with
                    | none => (r1.1, .ok (l ++ [mk 1]))
                    | some (c, r) =>
                      let r2 := readNode f cfg d r1.1 c r
                      match r2.2 with
                      | .ok rr => (r2.1, .ok (l ++ [mk rr]))
                      | .absent => (r2.1, .ok (l ++ [mk 1]))
                      | e => (r2.1, .error e))
                  | e => (r1.1, .error e)
            match g.2 with
            | .error e => (g.1, e)
            | .ok mods =>
              -- normalisation (hence a division by zero) happens before the cap attribute is read
              match normAll am.stackable mods with
              | .error _ => (g.1, .divZero)
              | .ok _ =>
              let c : Cache × Except Val (Option Rat) := match am.maxAttr with
                | none => (g.1, .ok none)
                | some mx =>
                  let r3 := readNode f cfg d g.1 y mx
                  match r3.2 with
                  | .ok cv => (r3.1, .ok (some cv))
                  | .absent => (r3.1, .ok none)
                  | e => (r3.1, .error e)
              match c.2 with
              | .error e => (c.1, e)
              | .ok cap =>
                match calculate pen am.stackable am.hig b mods cap (limited.contains am.id) with
                | .ok v => ((fun k => if k = (y.id, a) then some v else c.1 k), .ok v)
                | .error _ => (c.1, .divZero)

/-- A public read of `(item i, attribute a)`. -/
def readStep (s : MState) (i : Nat) (a : Int) : MState × Val :=
  match item? s.cfg i with
  | none => (s, .absent)
  | some y =>
    let r := readNode u immune limited pen (fuelOf u + 1) s.cfg s.dyn s.cache y a
    ({ s with cache := r.1 }, r.2)

/-- Cached entries of the items of the configuration, in configuration / rank order. -/
def cachedEntries (s : MState) : List (Node × Rat) :=
  s.cfg.items.flatMap fun x => u.attrs.filterMap fun am =>
    (s.cache (x.id, am.id)).map fun v => ((x.id, am.id), v)

/-- Re-pack the cache and the dynamic flags as finite tables over the configuration's items and their
types' effects (keeps driver look-ups cheap; extensionally the same state on those items). -/
def compact (s : MState) : MState :=
  let es := cachedEntries u s
  let ld := (s.cfg.items.filter fun x => s.dyn.loaded x.id).map (·.id)
  let effs (x : Item) : List Int := match type? u x.typeId with | some t => t.effects | none => []
  let on := s.cfg.items.flatMap fun x => ((effs x).filter fun e => s.dyn.on x.id e).map fun e => (x.id, e)
  let tg := s.cfg.items.flatMap fun x => (effs x).filterMap fun e =>
    let ts := s.dyn.tgts x.id e
    if ts.isEmpty then none else some ((x.id, e), ts)
  { s with cache := fun n => (es.find? (·.1 == n)).map (·.2),
           dyn := { loaded := fun i => ld.contains i,
                    on := fun i e => on.contains (i, e),
                    tgts := fun i e => ((tg.find? (·.1 == (i, e))).map (·.2)).getD [],
                    bspecs := s.dyn.bspecs } }

/-! ## Table-backed twin of the cascade

`Micro.casc` / `visit` / `visitAll` return a cache *function*; compiled code would re-run the whole fold on
every look-up.  The driver therefore executes the twin below, which keeps the cache as a finite table;
`EosProofs/Lemmas/MicroExecStep.lean` proves `tblFun (cascT …) = casc … (tblFun …)` etc., so the driver computes
exactly the function the theorems of `Props/C01World.lean` are about. -/

abbrev Tbl := List (Node × Rat)

def tblFun (T : Tbl) : Cache := fun n => (T.find? (·.1 == n)).map (·.2)
def Tbl.drop (T : Tbl) (n : Node) : Tbl := T.filter (·.1 != n)

mutual
def cascT (cfg : Config) (d : Dyn) (fuel : Nat) (T : Tbl) (n : Node) : Tbl :=
  match fuel with
  | 0 => T
  | f + 1 => (rdeps u cfg d n).foldl (fun T t => visitT cfg d f T t) T
def visitT (cfg : Config) (d : Dyn) (fuel : Nat) (T : Tbl) (t : Node) : Tbl :=
  if (tblFun T t).isNone then T else cascT cfg d fuel (T.drop t) t
end

def visitAllT (cfg : Config) (d : Dyn) (fuel : Nat) (T : Tbl) (l : List Node) : Tbl :=
  l.foldl (fun T t => visitT u cfg d fuel T t) T

/-- Driver state: like `MState` with a table for the cache. -/
structure TState where
  cfg : Config
  dyn : Dyn
  tbl : Tbl

def TState.toM (s : TState) : MState := { cfg := s.cfg, dyn := s.dyn, cache := tblFun s.tbl }

/-- `mstep` on the table representation (same case analysis, same direct sets, same registries). -/
def mstepT (s : TState) : MStep → TState
  | .read _ => s
  | .load i => { s with dyn := { s.dyn with loaded := fun j => if j = i then true else s.dyn.loaded j } }
  | .unload i =>
    { s with dyn := { s.dyn with loaded := fun j => if j = i then false else s.dyn.loaded j },
             tbl := s.tbl.filter fun e => e.1.1 != i }
  | .start i es =>
    let d' := setOn s.dyn i es true
    { s with dyn := d',
             tbl := visitAllT u s.cfg d' (fuelOf u) s.tbl (directOf u s.cfg d' (localSpecsOf u s.cfg d' i es)) }
  | .stop i es =>
    let direct := directOf u s.cfg s.dyn (localSpecsOf u s.cfg s.dyn i es)
    let d' := setOn s.dyn i es false
    { s with dyn := d', tbl := visitAllT u s.cfg d' (fuelOf u) s.tbl direct }
  | .apply i e ts =>
    let d' := setTgts s.dyn i e ((s.dyn.tgts i e) ++ ts.filter fun t => !(s.dyn.tgts i e).contains t)
    { s with dyn := d',
             tbl := visitAllT u s.cfg d' (fuelOf u) s.tbl (directOf u s.cfg d' (projSpecsOf u s.cfg d' i e ts)) }
  | .unapply i e ts =>
    let direct := directOf u s.cfg s.dyn (projSpecsOf u s.cfg s.dyn i e ts)
    let d' := setTgts s.dyn i e ((s.dyn.tgts i e).filter fun t => !ts.contains t)
    { s with dyn := d', tbl := visitAllT u s.cfg d' (fuelOf u) s.tbl direct }
  | .changed i attr => { s with tbl := cascT u s.cfg s.dyn (fuelOf u) s.tbl (i, attr) }
  | .buffset i e ms =>
    { s with dyn := { s.dyn with bspecs := fun j f => if j = i ∧ f = e then ms else s.dyn.bspecs j f } }
  | .reconfig cfg' => { s with cfg := cfg' }

/-- Table of the entries a cache function holds for the configuration's items. -/
def tblOf (cfg : Config) (K : Cache) : Tbl :=
  cfg.items.flatMap fun x => u.attrs.filterMap fun am => (K (x.id, am.id)).map fun v => ((x.id, am.id), v)

/-- Finite re-packing of the dynamic flags (see `compact`). -/
def compactDyn (cfg : Config) (d : Dyn) : Dyn :=
  let ld := (cfg.items.filter fun x => d.loaded x.id).map (·.id)
  let effs (x : Item) : List Int := match type? u x.typeId with | some t => t.effects | none => []
  let on := cfg.items.flatMap fun x => ((effs x).filter fun e => d.on x.id e).map fun e => (x.id, e)
  let tg := cfg.items.flatMap fun x => (effs x).filterMap fun e =>
    let ts := d.tgts x.id e
    if ts.isEmpty then none else some ((x.id, e), ts)
  let bs := cfg.items.flatMap fun x => (effs x).filterMap fun e =>
    let ms := d.bspecs x.id e
    if ms.isEmpty then none else some ((x.id, e), ms)
  { loaded := fun i => ld.contains i, on := fun i e => on.contains (i, e),
    tgts := fun i e => ((tg.find? (·.1 == (i, e))).map (·.2)).getD [],
    bspecs := fun i e => ((bs.find? (·.1 == (i, e))).map (·.2)).getD [] }

/-- One message as the driver processes it: the table twin of the step, then the re-packing of the
registers (this very definition is what `Driver/Micro.lean` calls). -/
def mdoT (s : TState) (st : MStep) : TState :=
  let s' := mstepT u s st
  { s' with dyn := compactDyn u s'.cfg s'.dyn }

/-- A public read on the table representation. -/
def readStepT (s : TState) (i : Nat) (a : Int) : TState × Val :=
  match item? s.cfg i with
  | none => (s, .absent)
  | some y =>
    let r := readNode u immune limited pen (fuelOf u + 1) s.cfg s.dyn (tblFun s.tbl) y a
    ({ s with tbl := tblOf u s.cfg r.1 }, r.2)

/-- Effect ids of the type of an item (whether or not the item is loaded). -/
def effsOf (x : Item) : List Int := match type? u x.typeId with | some t => t.effects | none => []

/-- No effect of (the type of) item `i` runs. -/
def noneOnb (s : TState) (i : Nat) : Bool :=
  s.cfg.items.all fun x => x.id != i || (effsOf u x).all fun e => !s.dyn.on i e

/-- `i` is not among the recorded targets of any projector (configured item, effect of its type). -/
def notTargetb (s : TState) (i : Nat) : Bool :=
  s.cfg.items.all fun a => (effsOf u a).all fun e => !(s.dyn.tgts a.id e).contains i

/-- Executable form of the side conditions `L.StepOK` (EosProofs/Lemmas/MicroLegal.lean) of the message steps —
all but `reconfig` — over the *named* pairs: items of the configuration and the effect ids their types list
(`DynFin` states — every state the driver is in — hold nothing else, so that `stepOKb = true` is equivalent to
`StepOK`: `stepOKb_sound` / `stepOKb_complete` in EosProofs/Lemmas/MicroExecStep.lean).  The driver evaluates it
before every message of the real code's stream: a `false` means the real history left the class the legality
theorems cover. -/
def stepOKb (s : TState) : MStep → Bool
  | .load i => (s.tbl.all fun e => e.1.1 != i) && noneOnb u s i && notTargetb u s i
  | .unload i => noneOnb u s i && notTargetb u s i
  | .start i es | .stop i es => es.all fun e => (s.dyn.tgts i e).isEmpty
  | .apply _ _ ts => ts.all fun j => match item? s.cfg j with
    | some t => t.kind.isSolsys
    | none => true
  | .buffset i e _ => (s.dyn.tgts i e).isEmpty
  | _ => true

/-- `(i, e)` names an item of the configuration and an effect id its type lists. -/
def namedb (cfg : Config) (i : Nat) (e : Int) : Bool :=
  cfg.items.any fun x => x.id == i && (effsOf u x).contains e

/-- Executable form of `StepFin` (EosProofs/Lemmas/MicroExecStep.lean; all messages but `reconfig`): the message names
a configured item and effects of its type — the hypothesis under which the driver's `mdoT` is `mstep`
(`stepFinb_iff`); the driver evaluates it for every message and prints `unnamed …` when it is false. -/
def stepFinb (s : TState) : MStep → Bool
  | .load i => s.cfg.items.any fun x => x.id == i
  | .start i es => es.all fun e => namedb u s.cfg i e
  | .apply i e ts => ts.isEmpty || namedb u s.cfg i e
  | .buffset i e ms => ms.isEmpty || namedb u s.cfg i e
  | _ => true

/-- Executable side condition of an `RC` line (the driver replaces the configuration, registers and table stay):
whatever the registers hold for the named pairs of the *old* configuration — a loaded flag, a running effect,
recorded targets, warfare-buff payload — is still named in the new configuration `cfg'`.  On `DynFin` registers
(which hold nothing else) this is `DynFin u cfg' s.dyn`, the `reconfig` clause of `StepFin`
(`rcFinb_sound` / `rcFinb_complete`, EosProofs/Lemmas/MicroExecStep.lean). -/
def rcFinb (s : TState) (cfg' : Config) : Bool :=
  s.cfg.items.all fun x =>
    (!s.dyn.loaded x.id || cfg'.items.any fun y => y.id == x.id) &&
    (effsOf u x).all fun e =>
      (!s.dyn.on x.id e && (s.dyn.tgts x.id e).isEmpty && (s.dyn.bspecs x.id e).isEmpty) || namedb u cfg' x.id e

end Eos.Micro
