import EosModel.World
import EosModel.WorldWF
/-! # Message-level ("micro") model of the calculation service (implementation layer of C01)

`EosModel/World.lean` is the from-scratch specification: running effects and applied projections are
*derived* from the configuration.  The real code gets there through messages: `ItemLoaded`,
`EffectsStarted/Stopped`, `EffectApplied/Unapplied`, `ItemUnloaded`, `AttrsValueChanged`; between two
messages of one public call the world is in an intermediate state in which an item is loaded but its
effects do not run yet, an effect runs but is not applied yet, and so on.  This file models exactly that:

* `Dyn` — the dynamic part: which effects run, which projections are recorded as applied;
* `gatherD` / `valueOfD` — the calculation of `World.lean` reading `Dyn` instead of deriving it;
* `deps` — the dependency list of a node `(item, attribute)` (what `valueOfD` reads);
* the handlers of `eos/calculator/service.py` with the registers of `affection.py`/`projection.py`
  replaced by their declarative content (`localAffectees`, `projAffectees`): direct invalidation sets of
  `_handle_effects_started/stopped`, `_handle_effect_applied/unapplied`, and the four reverse-dependency
  enumerators of `_revise_regular_attr_dependents` (`rdeps`);
* `MStep`/`mstep` — the micro-steps with their removal sets (DFS cascade of `_force_recalc` +
  `AttrsValueChanged`).

Fleet boosts: the warfare-buff modifiers of a running boost effect are message payload (`Dyn.bspecs`, set
by `MStep.buffset`) like the recorded targets; *which* templates the service picks from the buff attributes
is therefore outside this layer: the specification layer `World.buffModifiers` states it.  The two layers are
joined by `BuffPayloadOK` / `BuffSettled` (`EosProofs/Lemmas/MicroAssembly.lean`): a dynamic state that is
`derivedDyn` on loaded items, running effects and the targets of ordinary effects and in which, for every
running boost, the registered modifiers are the specification's `buffModifiers` computed from the table
`World.evalAll` and the recorded targets are the specification's `boostTargets` (or the projector has no
projected modifier at all) has the table's entries as its from-scratch values
(`settled_spec_eq_table_buff`, headline `C01World.world_read_eq_table_buff`; no "no buff effects"
hypothesis).  That a real settled state is `BuffSettled` is what the correspondence check compares after
every public call: registered payload and recorded targets of every running boost against the specification
(driver command `QB`).
-/
namespace Eos.Micro
open Eos.World Eos.Calc

abbrev Node := Nat × Int

/-- Solar-system items (ship, drone, fighter squad): what a projection can be recorded as applied to. -/
def _root_.Eos.World.Kind.isSolsys : Kind → Bool
  | .ship | .drone | .fighter => true
  | _ => false

/-- Dynamic state maintained by messages. -/
structure Dyn where
  /-- loaded flag per item id (an item is registered as affectee between ItemLoaded and ItemUnloaded) -/
  loaded : Nat → Bool
  /-- effect `e` of item `i` is in `_running_effect_ids` -/
  on : Nat → Int → Bool
  /-- targets recorded by `EffectApplied` for projector `(item, effect)` -/
  tgts : Nat → Int → List Nat
  /-- warfare-buff modifiers registered for projector `(item, effect)` (`__warfare_buffs`): built by the
  service from the buff id / value attributes and the source's buff templates when a fleet-boost effect
  starts or its buff attributes change; here they are message payload, like the recorded targets -/
  bspecs : Nat → Int → List Modifier := fun _ _ => []

variable (u : Universe) (cfg : Config) (d : Dyn)

/-- The type of an item that is currently loaded (message level). -/
def typeOf? (it : Item) : Option ItemType := if d.loaded it.id then type? u it.typeId else none

def typeEffects (it : Item) : List Effect :=
  match typeOf? u d it with
  | none => []
  | some ty => ty.effects.filterMap (effect? u)

/-- Effects currently running on an item, in type order. -/
def running (it : Item) : List Effect := (typeEffects u d it).filter fun e => d.on it.id e.id

def targetsOf (a : Item) (e : Effect) : List Item := (d.tgts a.id e.id).filterMap (item? cfg)

/-- Resistance factor read for a modification of effect `e` landing on `x` (same as `World.resistOf`). -/
def carrierOf (x : Item) : Option Item :=
  match x.kind with
  | .ship | .drone | .fighter => some x
  | .moduleHigh | .moduleMid | .moduleLow | .rig | .stance | .subsystem => (shipOf cfg x.fit).bind (item? cfg)
  | .charge | .autocharge =>
    (x.parent.bind (item? cfg)).bind fun p =>
      match p.kind with
      | .drone | .fighter => some p
      | .moduleHigh | .moduleMid | .moduleLow => (shipOf cfg p.fit).bind (item? cfg)
      | _ => none
  | _ => none

def resistRead (e : Effect) (x : Item) : Option (Item × Int) :=
  match e.resistAttr with
  | none => none
  | some r => if r == 0 then none else (carrierOf cfg x).map fun c => (c, r)

def resistD (rd : Reader) (e : Effect) (x : Item) : Val :=
  match resistRead cfg e x with
  | none => .ok 1
  | some (c, r) => match rd c r with
    | .absent => .ok 1
    | v => v

/-- One affector specification: carrier item, effect, modifier, and (for projected ones) the target. -/
structure Spec where
  a : Item
  e : Effect
  m : Modifier
  tg : Option Item
  deriving Repr

/-- Does spec `s` select loaded item `x` (of type `tx`)? -/
def selects (s : Spec) (x : Item) (tx : ItemType) : Bool :=
  match s.tg with
  | none => affectsLocal cfg s.a s.m x tx
  | some t => s.m.domain == 4 && affectsProjected cfg s.a s.m t x tx

/-- Local specs of the running effects of `a`. -/
def localSpecs (a : Item) : List Spec :=
  (running u d a).flatMap fun e => (e.mods.filter (·.domain != 4)).map fun m => ⟨a, e, m, none⟩

/-- Well-formed warfare-buff payload: a target-domain modifier whose source is one of the warfare-buff
attributes and whose target attribute is the target of one of the universe's buff templates (every modifier
the service builds from a template is like that).  Anything else in `Dyn.bspecs` is ignored, so that the
dependency graph of *every* dynamic state is ranked by `rankWF` (the driver rejects such a payload line). -/
def bspecOK (m : Modifier) : Bool :=
  m.domain == 4 && buffAttrs.contains m.srcAttr && u.buffs.any (·.tgtAttr == m.tgtAttr)

/-- Projected modifiers of effect `e` of item `a`: its own target-domain modifiers and, for a fleet-boost
effect, the registered warfare-buff modifiers (`__generate_projected_affectors`). -/
def projMods (a : Item) (e : Effect) : List Modifier :=
  (e.mods.filter (·.domain == 4)) ++ (if e.isBuff then (d.bspecs a.id e.id).filter (bspecOK u) else [])

/-- Projected specs of the running projectable / fleet-boost effects of `a`, one per recorded target. -/
def projSpecs (a : Item) : List Spec :=
  (running u d a).flatMap fun e =>
    if e.category == 2 || e.isBuff then
      (targetsOf cfg d a e).flatMap fun t => (projMods u d a e).map fun m => ⟨a, e, m, some t⟩
    else []

def allSpecs : List Spec := cfg.items.flatMap fun a => localSpecs u d a ++ projSpecs u cfg d a

/-- Specs that modify attribute `attr` of item `x`. -/
def specsOn (x : Item) (tx : ItemType) (attr : Int) : List Spec :=
  (allSpecs u cfg d).filter fun s => s.m.tgtAttr == attr && selects cfg s x tx

def immuneOf (immune : List Int) (a : Item) : Bool :=
  match typeOf? u d a with
  | some ta => (match ta.category with | some c => immune.contains c | none => false)
  | none => false

/-- Gathered modifications, message level. -/
def gatherD (immune : List Int) (rd : Reader) (x : Item) (tx : ItemType) (attr : Int) : Except Val (List Mod) :=
  (specsOn u cfg d x tx attr).foldlM (init := []) fun acc s =>
    match rd s.a s.m.srcAttr with
    | .absent => .ok acc
    | .ok v => (match resistD cfg rd s.e x with
      | .ok r => .ok (acc ++ [{ op := s.m.op, value := v, resist := r, agg := s.m.agg, aggKey := s.m.aggKey,
                                immune := immuneOf u d immune s.a }])
      | w => .error w)
    | w => .error w

def baseOf (tx : ItemType) (am : AttrMeta) : Option Rat :=
  match tx.attrs.find? (·.1 == am.id) with
  | some p => some p.2
  | none => am.default

/-- Value of one attribute, message level (cf. `World.valueOf`). -/
def valueOfD (immune limited : List Int) (pen : Nat → Rat) (rd : Reader) (x : Item) (am : AttrMeta) : Val :=
  if x.kind == .skill && am.id == 280 then (match x.level with | some l => .ok l | none => .absent) else
  match typeOf? u d x with
  | none => .absent
  | some tx =>
    match baseOf tx am with
    | none => .absent
    | some b =>
      match gatherD u cfg d immune rd x tx am.id with
      | .error v => v
      | .ok mods =>
        let cap : Except Val (Option Rat) := match am.maxAttr with
          | none => .ok none
          | some mx => match rd x mx with
            | .ok c => .ok (some c)
            | .absent => .ok none
            | v => .error v
        match cap with
        | .error v => v
        | .ok cap =>
          match calculate pen am.stackable am.hig b mods cap (limited.contains am.id) with
          | .ok v => .ok v
          | .error _ => .divZero

/-- Nodes read by the calculation of `(x, am)`: modifier sources, resistance attributes on the carrier,
the cap attribute.  A skill's level is answered by the override and reads nothing. -/
def deps (n : Node) : List Node :=
  match item? cfg n.1, attrMeta? u n.2 with
  | some x, some am =>
    if x.kind == .skill && am.id == 280 then [] else
    match typeOf? u d x with
    | none => []
    | some tx =>
      ((specsOn u cfg d x tx am.id).flatMap fun s =>
        (s.a.id, s.m.srcAttr) :: (match resistRead cfg s.e x with | some (c, r) => [(c.id, r)] | none => [])) ++
      (match am.maxAttr with | some mx => [(x.id, mx)] | none => [])
  | _, _ => []

/-- Items a local / projected spec currently selects (declarative content of the affection register). -/
def affectees (s : Spec) : List Item :=
  cfg.items.filter fun x => match typeOf? u d x with
    | some tx => selects cfg s x tx
    | none => false

/-- Reverse dependencies of node `(y, b)` as `_revise_regular_attr_dependents` enumerates them:
(1) attributes of `y` capped by `b`; (2) targets of local specs of `y` sourced from `b`; (3) targets of
projected specs of `y` sourced from `b`; (4) for every projector `(a, e)` whose effect is resisted by `b` and
which has `y` among its recorded targets — or, when `y` is owner-modifiable (drone, fighter, charge), the
ship of `y`'s fit: such an item is selected by effects projected onto its ship but resists them with its own
attribute — everything the projected specs of `(a, e)` select, over *all* recorded targets of the projector
(as the code does, not only the specs aimed at `y`). -/
def rdeps (n : Node) : List Node :=
  match item? cfg n.1 with
  | none => []
  | some y =>
    ((u.attrs.filter fun am => am.maxAttr == some n.2).map fun am => (y.id, am.id)) ++
    (((localSpecs u d y ++ projSpecs u cfg d y).filter fun s => s.m.srcAttr == n.2).flatMap fun s =>
      (affectees u cfg d s).map fun x => (x.id, s.m.tgtAttr)) ++
    (cfg.items.flatMap fun a =>
      ((projSpecs u cfg d a).filter fun s =>
          s.e.resistAttr == some n.2 && n.2 != 0 &&
          (targetsOf cfg d a s.e).any fun t =>
            t.id == y.id || (y.kind.ownerModifiable && shipOf cfg y.fit == some t.id)).flatMap
        fun s => (affectees u cfg d s).map fun x => (x.id, s.m.tgtAttr))

/-- Attribute cache: `(item, attribute) ↦ cached value`. -/
abbrev Cache := Node → Option Rat

def dropNode (K : Cache) (n : Node) : Cache := fun x => if x = n then none else K x

mutual
/-- `AttrsValueChanged` for `n`: visit its reverse dependencies. -/
def casc (fuel : Nat) (K : Cache) (n : Node) : Cache :=
  match fuel with
  | 0 => K
  | f + 1 => (rdeps u cfg d n).foldl (fun K t => visit f K t) K
/-- `_force_recalc`: only a cached entry is dropped and reported as changed. -/
def visit (fuel : Nat) (K : Cache) (t : Node) : Cache :=
  if K t = none then K else casc fuel (dropNode K t) t
end

def visitAll (fuel : Nat) (K : Cache) (l : List Node) : Cache := l.foldl (fun K t => visit u cfg d fuel K t) K

/-- Direct invalidation targets of a list of specs (start / stop / apply / unapply handlers). -/
def directOf (specs : List Spec) : List Node :=
  specs.flatMap fun s => (affectees u cfg d s).map fun x => (x.id, s.m.tgtAttr)

structure MState where
  cfg : Config
  dyn : Dyn
  cache : Cache

/-- Message-level steps of the calculation service. -/
inductive MStep
  | read (S : Node → Bool)
  /-- `ItemLoaded`: the item (already placed in the configuration) gets its type -/
  | load (i : Nat)
  /-- `ItemUnloaded` followed by `attrs._clear()` -/
  | unload (i : Nat)
  /-- `EffectsStarted(item, effects)` -/
  | start (i : Nat) (es : List Int)
  /-- `EffectsStopped(item, effects)` -/
  | stop (i : Nat) (es : List Int)
  /-- `EffectApplied(item, effect, targets)` -/
  | apply (i : Nat) (e : Int) (ts : List Nat)
  /-- `EffectUnapplied(item, effect, targets)` -/
  | unapply (i : Nat) (e : Int) (ts : List Nat)
  /-- `AttrsValueChanged` raised for an overridden attribute (skill level changed) -/
  | changed (i : Nat) (attr : Int)
  /-- the service (re)builds or drops the warfare-buff modifiers of projector `(i, e)` (no targets are
      recorded for it at that moment: the old ones were un-applied, the new ones are applied afterwards) -/
  | buffset (i : Nat) (e : Int) (ms : List Modifier)
  /-- a change of the static configuration that touches no loaded item (placing / removing an unloaded item,
      changing the state or target field itself; the messages that follow are separate steps) -/
  | reconfig (cfg' : Config)

def fuelOf : Nat := u.attrs.length + 1

def setOn (d : Dyn) (i : Nat) (es : List Int) (v : Bool) : Dyn :=
  { d with on := fun j e => if j = i ∧ e ∈ es then v else d.on j e }

def setTgts (d : Dyn) (i : Nat) (e : Int) (ts : List Nat) : Dyn :=
  { d with tgts := fun j f => if j = i ∧ f = e then ts else d.tgts j f }

/-- Local specs contributed by effects `es` of item `i` under `d` (EffectsStarted / EffectsStopped). -/
def localSpecsOf (i : Nat) (es : List Int) : List Spec :=
  match item? cfg i with
  | none => []
  | some a => (localSpecs u d a).filter fun s => es.contains s.e.id

/-- Projected specs of effect `e` of item `i` onto the targets `ts` (EffectApplied / EffectUnapplied). -/
def projSpecsOf (i : Nat) (e : Int) (ts : List Nat) : List Spec :=
  match item? cfg i with
  | none => []
  | some a => (projSpecs u cfg d a).filter fun s =>
      s.e.id == e && (match s.tg with | some t => ts.contains t.id | none => false)

def mstep (s : MState) : MStep → MState
  | .read _ => s                         -- (cache filling is described by `Machine.step`; see the refinement theorem)
  | .load i => { s with dyn := { s.dyn with loaded := fun j => if j = i then true else s.dyn.loaded j } }
  | .unload i =>
    { s with dyn := { s.dyn with loaded := fun j => if j = i then false else s.dyn.loaded j },
             cache := fun n => if n.1 = i then none else s.cache n }
  | .start i es =>
    -- register the specs, drop what they select, cascade
    let d' := setOn s.dyn i es true
    { s with dyn := d',
             cache := visitAll u s.cfg d' (fuelOf u) s.cache (directOf u s.cfg d' (localSpecsOf u s.cfg d' i es)) }
  | .stop i es =>
    -- drop what the specs select (still registered), unregister, cascade in the new registry
    let direct := directOf u s.cfg s.dyn (localSpecsOf u s.cfg s.dyn i es)
    let d' := setOn s.dyn i es false
    { s with dyn := d', cache := visitAll u s.cfg d' (fuelOf u) s.cache direct }
  | .apply i e ts =>
    -- recorded targets are a set: applying to a recorded target again adds nothing
    let d' := setTgts s.dyn i e ((s.dyn.tgts i e) ++ ts.filter fun t => !(s.dyn.tgts i e).contains t)
    { s with dyn := d',
             cache := visitAll u s.cfg d' (fuelOf u) s.cache (directOf u s.cfg d' (projSpecsOf u s.cfg d' i e ts)) }
  | .unapply i e ts =>
    let direct := directOf u s.cfg s.dyn (projSpecsOf u s.cfg s.dyn i e ts)
    let d' := setTgts s.dyn i e ((s.dyn.tgts i e).filter fun t => !ts.contains t)
    { s with dyn := d', cache := visitAll u s.cfg d' (fuelOf u) s.cache direct }
  | .changed i attr =>
    { s with cache := casc u s.cfg s.dyn (fuelOf u) s.cache (i, attr) }
  | .buffset i e ms =>
    { s with dyn := { s.dyn with bspecs := fun j f => if j = i ∧ f = e then ms else s.dyn.bspecs j f } }
  | .reconfig cfg' => { s with cfg := cfg' }

/-- Reader over a node valuation: a skill's level is an override of the item; an attribute without
metadata has no value; otherwise the valuation decides (no value = absent). -/
def readerOf (f : Node → Option Rat) : Reader := fun y a =>
  if y.kind == .skill && a == 280 then (match y.level with | some l => .ok l | none => .absent)
  else if (attrMeta? u a).isNone then .absent
  else match f (y.id, a) with | some v => .ok v | none => .absent

def valToOption : Val → Option Rat
  | .ok v => some v
  | _ => none

/-- Local evaluation of a node under a valuation of the other nodes (the `eval` of the dependency graph). -/
def evalD (immune limited : List Int) (pen : Nat → Rat) (n : Node) (f : Node → Option Rat) : Option Rat :=
  match item? cfg n.1, attrMeta? u n.2 with
  | some x, some am => valToOption (valueOfD u cfg d immune limited pen (readerOf u f) x am)
  | _, _ => none

/-- Position of an attribute in the universe's rank order (dependencies come earlier). -/
def rankOf (n : Node) : Nat := (u.attrs.map (·.id)).idxOf n.2

/-- The dynamic state the specification derives from a configuration: everything the source knows is
loaded, exactly the effects the status decision selects run, a projectable running effect is applied to
the item's current target. -/
def derivedDyn : Dyn where
  loaded := fun i => match item? cfg i with | some x => World.loaded u cfg x | none => false
  on := fun i e => match item? cfg i with | some x => (runningIds u cfg x).contains e | none => false
  tgts := fun i e => match item? cfg i with
    | some x => (match effect? u e with
      | some ef => (projectionTargets cfg x ef).map (·.id)
      | none => [])
    | none => []

/-- Items of a configuration are identified by their id. -/
def UniqueIds (cfg : Config) : Prop := (cfg.items.map (·.id)).Nodup

/-- The dependencies that can carry a value: nodes whose attribute has metadata (any other node reads as
absent through `readerOf`, whatever the valuation says). -/
def depsM (n : Node) : List Node := (deps u cfg d n).filter fun m => (attrMeta? u m.2).isSome

end Eos.Micro
