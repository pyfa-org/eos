import EosModel.Restrictions
/-! Hand-written specification table for the regenerated obligations of C03: which messages each
restriction register needs for its predicate, which attribute / effect / state constants each
restriction and each stat register it reads may mention, which stat or container each slot
restriction reads.  Written from the restriction docstrings and the model above (the numeric ids are
the model's own constants); `EosGen.RestrictionMaps` is compared with it by evaluation (`Props/C03.lean`, `gen_*`). -/
namespace Eos.Restr.Table
open Eos.Restr

def N (n : Nat) : List Int := [Int.ofNat n]
def Ns (l : List Nat) : List Int := l.map Int.ofNat

/-- The message pair a register needs so that it holds `{i | loaded i ∧ flag i ∧ P i}`. -/
def triggerMsgs : Trigger → List String
  | .load => ["ItemLoaded", "ItemUnloaded"]
  | .state _ => ["StatesActivatedLoaded", "StatesDeactivatedLoaded"]
  | .effect _ => ["EffectsStarted", "EffectsStopped"]

def handlersOf (t : RType) : List String :=
  if RType.stateful.contains t then triggerMsgs (regSpec t).trigger else []

def modules : String := "TRACKED_ITEM_CLASSES=ModuleHigh+ModuleMid+ModuleLow"

/-- class name, restriction type, constants it may mention, symbolic references -/
def rows : List (String × RType × List (String × List Int) × List String) := [
  ("CpuRestriction", .cpu, [("AttrId.cpu", N A.cpu)], ["_stat_name=cpu"]),
  ("PowergridRestriction", .powergrid, [("AttrId.power", N A.power)], ["_stat_name=powergrid"]),
  ("CalibrationRestriction", .calibration, [("AttrId.upgrade_cost", N A.upgradeCost)], ["_stat_name=calibration"]),
  ("DroneBayVolumeRestriction", .dronebayVolume, [("AttrId.volume", N A.volume)], ["_stat_name=dronebay"]),
  ("DroneBandwidthRestriction", .droneBandwidth, [("AttrId.drone_bandwidth_used", N A.droneBandwidthUsed)],
    ["_stat_name=drone_bandwidth"]),
  ("LaunchedDroneRestriction", .launchedDrone, [], ["_slot_stats=self._fit.stats.launched_drones"]),
  ("DroneGroupRestrictionRegister", .droneGroup, [("ALLOWED_GROUP_ATTR_IDS", Ns A.droneGroups)], ["class:Drone"]),
  ("HighSlotRestriction", .highSlot, [], ["_container=self._fit.modules.high", "_slot_stats=self._fit.stats.high_slots"]),
  ("MidSlotRestriction", .midSlot, [], ["_container=self._fit.modules.mid", "_slot_stats=self._fit.stats.mid_slots"]),
  ("LowSlotRestriction", .lowSlot, [], ["_container=self._fit.modules.low", "_slot_stats=self._fit.stats.low_slots"]),
  ("RigSlotRestriction", .rigSlot, [], ["_container=self._fit.rigs", "_slot_stats=self._fit.stats.rig_slots"]),
  ("RigSizeRestrictionRegister", .rigSize, [("AttrId.rig_size", N A.rigSize), ("EffectId.rig_slot", N E.rigSlot)], []),
  ("SubsystemSlotRestriction", .subsystemSlot, [],
    ["_container=self._fit.subsystems", "_slot_stats=self._fit.stats.subsystem_slots"]),
  ("SubsystemIndexRestrictionRegister", .subsystemIndex, [("AttrId.subsystem_slot", N A.subsystemSlot)], ["class:Subsystem"]),
  ("TurretSlotRestriction", .turretSlot, [], ["_slot_stats=self._fit.stats.turret_slots"]),
  ("LauncherSlotRestriction", .launcherSlot, [], ["_slot_stats=self._fit.stats.launcher_slots"]),
  ("ImplantIndexRestrictionRegister", .implantIndex, [("AttrId.implantness", N A.implantness)], ["class:Implant"]),
  ("BoosterIndexRestrictionRegister", .boosterIndex, [("AttrId.boosterness", N A.boosterness)], ["class:Booster"]),
  ("ShipTypeGroupRestrictionRegister", .shipTypeGroup,
    [("ALLOWED_GROUP_ATTR_IDS", Ns A.shipGroups), ("ALLOWED_TYPE_ATTR_IDS", Ns A.shipTypes)], [modules]),
  ("CapitalItemRestrictionRegister", .capitalItem,
    [("AttrId.is_capital_size", N A.isCapitalSize), ("AttrId.volume", N A.volume), ("MAX_SUBCAP_VOLUME", [3500])], [modules]),
  ("MaxGroupFittedRestrictionRegister", .maxGroupFitted, [("AttrId.max_group_fitted", N A.maxGroupFitted)], [modules]),
  ("MaxGroupOnlineRestrictionRegister", .maxGroupOnline,
    [("AttrId.max_group_online", N A.maxGroupOnline), ("State.online", N stOnline)], [modules]),
  ("MaxGroupActiveRestrictionRegister", .maxGroupActive,
    [("AttrId.max_group_active", N A.maxGroupActive), ("State.active", N stActive)], [modules]),
  ("SkillRequirementRestrictionRegister", .skillRequirement, [], ["EXCEPTIONS=Rig"]),
  ("ItemClassRestriction", .itemClass, [], []),
  ("StateRestrictionRegister", .state, [("State.online", N stOnline)], ["EXCEPTIONS=Charge+Autocharge"]),
  ("ChargeGroupRestrictionRegister", .chargeGroup, [("ALLOWED_GROUP_ATTR_IDS", Ns A.chargeGroups)], []),
  ("ChargeSizeRestrictionRegister", .chargeSize, [("AttrId.charge_size", N A.chargeSize)], []),
  ("ChargeVolumeRestrictionRegister", .chargeVolume, [("AttrId.capacity", N A.capacity), ("AttrId.volume", N A.volume)], []),
  ("FighterSquadRestriction", .fighterSquad, [], ["_container=self._fit.fighters", "_slot_stats=self._fit.stats.fighter_squads"]),
  ("FighterSquadSupportRestriction", .fighterSquadSupport, [], ["_slot_stats=self._fit.stats.fighter_squads_support"]),
  ("FighterSquadLightRestriction", .fighterSquadLight, [], ["_slot_stats=self._fit.stats.fighter_squads_light"]),
  ("FighterSquadHeavyRestriction", .fighterSquadHeavy, [], ["_slot_stats=self._fit.stats.fighter_squads_heavy"]),
  ("LoadedItemRestriction", .loadedItem, [], [])]

/-- The table in the shape of the generated one. -/
def restrictions : List (String × Nat × List String × List (String × List Int) × List String) :=
  rows.map fun r => (r.1, r.2.1.toNat, handlersOf r.2.1, r.2.2.1, r.2.2.2)

def effMsgs : List String := ["EffectsStarted", "EffectsStopped"]
def loadMsgs : List String := ["ItemLoaded", "ItemUnloaded"]

/-- The stat registers the restrictions read: users by message pair, use and output attributes. -/
def statRegisters : List (String × List String × List (String × List Int) × List String) := [
  ("cpu", effMsgs, [("AttrId.cpu", N A.cpu), ("AttrId.cpu_output", N A.cpuOutput), ("EffectId.online", N E.online)], []),
  ("powergrid", effMsgs,
    [("AttrId.power", N A.power), ("AttrId.power_output", N A.powerOutput), ("EffectId.online", N E.online)], []),
  ("calibration", effMsgs,
    [("AttrId.upgrade_capacity", N A.upgradeCapacity), ("AttrId.upgrade_cost", N A.upgradeCost),
     ("EffectId.rig_slot", N E.rigSlot)], []),
  ("dronebay", loadMsgs, [("AttrId.drone_capacity", N A.droneCapacity), ("AttrId.volume", N A.volume)], ["class:Drone"]),
  ("drone_bandwidth", ["StatesActivatedLoaded", "StatesDeactivatedLoaded"],
    [("AttrId.drone_bandwidth", N A.droneBandwidth), ("AttrId.drone_bandwidth_used", N A.droneBandwidthUsed),
     ("State.online", N stOnline)], ["class:Drone"]),
  ("turret_slots", effMsgs,
    [("AttrId.turret_slots_left", N A.turretSlotsLeft), ("EffectId.turret_fitted", N E.turretFitted)], []),
  ("launcher_slots", effMsgs,
    [("AttrId.launcher_slots_left", N A.launcherSlotsLeft), ("EffectId.launcher_fitted", N E.launcherFitted)], []),
  ("launched_drones", ["StatesActivated", "StatesDeactivated"],
    [("AttrId.max_active_drones", N A.maxActiveDrones), ("State.online", N stOnline)], ["class:Drone"]),
  ("fighter_squads_support", loadMsgs,
    [("AttrId.fighter_squadron_is_support", N A.fighterIsSupport), ("AttrId.fighter_support_slots", N A.fighterSupportSlots)],
    ["class:FighterSquad"]),
  ("fighter_squads_light", loadMsgs,
    [("AttrId.fighter_light_slots", N A.fighterLightSlots), ("AttrId.fighter_squadron_is_light", N A.fighterIsLight)],
    ["class:FighterSquad"]),
  ("fighter_squads_heavy", loadMsgs,
    [("AttrId.fighter_heavy_slots", N A.fighterHeavySlots), ("AttrId.fighter_squadron_is_heavy", N A.fighterIsHeavy)],
    ["class:FighterSquad"])]

def slotStats : List (String × String × Nat) := [
  ("high_slots", "self.__fit.modules.high", A.hiSlots),
  ("mid_slots", "self.__fit.modules.mid", A.medSlots),
  ("low_slots", "self.__fit.modules.low", A.lowSlots),
  ("rig_slots", "self.__fit.rigs", A.rigSlots),
  ("subsystem_slots", "self.__fit.subsystems", A.maxSubsystems),
  ("fighter_squads", "self.__fit.fighters", A.fighterTubes)]

def restrictionEnum : List (String × Nat) := [
  ("cpu", 1), ("powergrid", 2), ("calibration", 3), ("dronebay_volume", 4), ("drone_bandwidth", 5),
  ("launched_drone", 6), ("drone_group", 7), ("high_slot", 8), ("mid_slot", 9), ("low_slot", 10),
  ("rig_slot", 11), ("rig_size", 12), ("subsystem_slot", 13), ("subsystem_index", 14), ("turret_slot", 15),
  ("launcher_slot", 16), ("implant_index", 17), ("booster_index", 18), ("ship_type_group", 19),
  ("capital_item", 20), ("max_group_fitted", 21), ("max_group_online", 22), ("max_group_active", 23),
  ("skill_requirement", 24), ("item_class", 26), ("state", 27), ("charge_group", 28), ("charge_size", 29),
  ("charge_volume", 30), ("fighter_squad", 31), ("fighter_squad_support", 32), ("fighter_squad_light", 33),
  ("fighter_squad_heavy", 34), ("loaded_item", 35)]

def classValidators : List (String × VExpr) := Eos.Restr.classValidators.map fun cv => (cv.1.name, cv.2)

end Eos.Restr.Table
